import Proofs.TaintLoops
/-!
C19: templates, template joins and function calls.
-/
namespace HclModel.Proofs
open Val

theorem tmplStep_shape (st : TSt) (o : Out) :
    NoNew (tmplStep st o).1 (st.1 ++ o.2) ∧
    ((tmplStep st o).2.2.1 = st.2.2.1 ∨ (tmplStep st o).2.2.1 = st.2.2.1.join o.1.fl) := by
  obtain ⟨ds, known, ms, buf⟩ := st
  obtain ⟨pv, pd⟩ := o
  unfold tmplStep
  dsimp only
  by_cases h1 : pv.isNull = true
  · rw [if_pos h1]; exact ⟨(NoNew.refl _).append (NoNew.free (frags_single_free rfl)), Or.inl rfl⟩
  rw [if_neg h1]
  by_cases h2 : (!pv.isKnown) = true
  · rw [if_pos h2]; exact ⟨NoNew.refl _, Or.inr rfl⟩
  rw [if_neg h2]
  split
  · exact ⟨(NoNew.refl _).append (NoNew.free (frags_single_free (frags_convErr ‹_› _))),
      Or.inr rfl⟩
  · exact ⟨NoNew.refl _, Or.inr rfl⟩
  · exact ⟨NoNew.refl _, Or.inr rfl⟩

theorem tmplOut_tw {st : TSt} (h : flOK st.2.2.1) : tw false (tmplOut st).1 = true := by
  obtain ⟨ds, known, ms, buf⟩ := st
  unfold tmplOut
  dsimp only
  split
  · have := tw_unk_of h .str
    simpa [tw] using this
  · exact tw_unk_of h _

theorem template_tw (outs : List Out) (h : ∀ o ∈ outs, tw false o.1 = true) :
    tw false (tmplOut (outs.foldl tmplStep (([] : List Diag), true, Fl.none, ""))).1 = true := by
  refine tmplOut_tw (foldl_inv (fun st : TSt => flOK st.2.2.1) tmplStep outs _ flOK_none fun st o ho hst => ?_)
  rcases (tmplStep_shape st o).2 with e | e <;> rw [e]
  · exact hst
  · exact flOK_join hst (tw_flOK (h o ho))

theorem template_frags (outs : List Out) (h : ∀ o ∈ outs, fragsClean o.2) :
    fragsClean (tmplOut (outs.foldl tmplStep (([] : List Diag), true, Fl.none, ""))).2 := by
  rw [tmplOut_diags]
  exact foldl_inv (fun st : TSt => fragsClean st.1) tmplStep outs _ fragsClean_nil
    fun st o ho hst => fragsClean_of_NoNew (tmplStep_shape st o).1 (fragsClean_append hst (h o ho))

theorem tjoinLoop_tw (tm : Fl) (htm : flOK tm) : ∀ (xs : List Val) (ds : List Diag) (ms : Fl) (buf : String),
    (∀ x ∈ xs, tw tm.m x = true) → (tm.m = true → ms.m = true) → flOK ms →
    tw false (tjoinLoop tm xs ds ms buf).1 = true
  | [], ds, ms, buf, _, _, hms => by
    unfold tjoinLoop
    have := tw_unk_of hms .str
    simpa [tw] using this
  | x :: xs, ds, ms, buf, hx, hmono, hms => by
    -- `ms` starts at `tm` and only grows: a guard an element adds is covered by the element's own mark or by `tm`'s
    have hxs : ∀ y ∈ xs, tw tm.m y = true := fun y hy => hx y (by simp [hy])
    unfold tjoinLoop
    split
    · exact tjoinLoop_tw tm htm xs _ _ _ hxs hmono hms
    · split
      · exact tw_withFl (tw_unk_of flOK_none _) htm
      · split
        · exact tjoinLoop_tw tm htm xs _ _ _ hxs hmono hms
        · rename_i sv hsv
          split
          · exact tw_withFl (tw_unk_of flOK_none _) htm
          · split
            · rename_i f s
              refine tjoinLoop_tw tm htm xs _ _ _ hxs (fun h => by simp [hmono h]) ?_
              intro hg
              simp only [join_g, join_m, Bool.or_eq_true] at hg ⊢
              rcases hg with hg | hg
              · exact Or.inl (hms hg)
              · have e : f = x.fl := by have := tryConvert_fl hsv; simpa using this
                rw [e] at hg ⊢
                rcases tw_top (hx x (by simp)) hg with h1 | h1
                · exact Or.inl (hmono h1)
                · exact Or.inr h1
            · exact tjoinLoop_tw tm htm xs _ _ _ hxs hmono hms

theorem tjoinLoop_frags (tm : Fl) : ∀ (xs : List Val) (ds : List Diag) (ms : Fl) (buf : String),
    fragsClean ds → fragsClean (tjoinLoop tm xs ds ms buf).2
  | [], ds, ms, buf, h => by unfold tjoinLoop; exact h
  | x :: xs, ds, ms, buf, h => by
    unfold tjoinLoop
    split
    · exact tjoinLoop_frags tm xs _ _ _ (fragsClean_append h (fragsClean_single_free rfl))
    · split
      · exact h
      · split
        · exact tjoinLoop_frags tm xs _ _ _
            (fragsClean_append h (fragsClean_single_free (frags_convErr ‹_› _)))
        · split
          · exact h
          · split
            · exact tjoinLoop_frags tm xs _ _ _ h
            · exact tjoinLoop_frags tm xs _ _ _ h

theorem tjoinOut_tw (o : Out) (h : tw false o.1 = true) : tw false (tjoinOut o).1 = true := by
  obtain ⟨tv, ds⟩ := o
  unfold tjoinOut
  dsimp only
  split
  · exact tw_unk_of flOK_none _
  · split
    · exact tw_unk_of flOK_none _
    · dsimp only [unmark]
      split
      · rename_i f xs hxs
        have hu := tw_unmark h
        rw [unmark_fst, hxs, tw_tuple_eq, Bool.and_eq_true] at hu
        have hf : f.m = false := by
          have := congrArg (fun v => v.fl.m) hxs
          simpa using this.symm
        refine tjoinLoop_tw tv.fl (tw_flOK h) xs ds tv.fl "" ?_ (fun h => h) (tw_flOK h)
        intro x hx
        have := twL_mem hu.2 x hx
        simpa [hf] using this
      · exact tw_dynVal _

theorem tjoinOut_frags (o : Out) (h : fragsClean o.2) : fragsClean (tjoinOut o).2 := by
  obtain ⟨tv, ds⟩ := o
  unfold tjoinOut
  dsimp only
  split
  · exact h
  split
  · exact h
  dsimp only [unmark]
  split
  · exact tjoinLoop_frags _ _ _ _ _ h
  · exact fragsClean_free (frags_unsupportedOut _)

theorem flagsDeepList_flOK : ∀ {args : List Val}, (∀ a ∈ args, tw false a = true) → flOK (flagsDeepList args)
  | [], _ => by simp [flagsDeepList]; exact flOK_none
  | a :: as, h => by
    simp only [flagsDeepList]
    exact flOK_join (flagsDeep_flOK (h a (by simp))) (flagsDeepList_flOK fun x hx => h x (by simp [hx]))

theorem flagsDeepList_m_false : ∀ {args : List Val}, (flagsDeepList args).m = false →
    ∀ a ∈ args, (flagsDeep a).m = false
  | [], _, _, ha => by cases ha
  | b :: bs, h, a, ha => by
    simp only [flagsDeepList, join_m, Bool.or_eq_false_iff] at h
    exact List.forall_mem_cons (p := fun a => (flagsDeep a).m = false).mpr ⟨h.1, flagsDeepList_m_false h.2⟩ a ha

theorem untainted_unmarkDeep {a : Val} (h : untainted a = true) : untainted (unmarkDeep a) = true := by
  unfold untainted at h ⊢
  rw [flagsDeep_unmarkDeep_g]; exact h

theorem callFunc_tw (spec : FuncSpec) (args : List Val) (v : Val) (hargs : ∀ a ∈ args, tw false a = true)
    (hlaw : ∀ as r, (∀ a ∈ as, untainted a = true) → spec.impl as = .ok r → tw false r = true)
    (h : callFunc spec args = .ok v) : tw false v = true := by
  have hfl : flOK (flagsDeepList args) := flagsDeepList_flOK hargs
  unfold callFunc at h
  rw [fold_flags, none_join] at h
  split at h
  · cases h
  · split at h
    · cases h
      exact tw_withFl (tw_unk_of flOK_none _) hfl
    · split at h
      · cases h
        exact tw_withFl (tw_unk_of flOK_none _) hfl
      · simp only [bind, Except.bind, pure, Except.pure] at h
        split at h
        · cases h
        · rename_i r hr
          cases h
          -- no argument is marked anywhere: all are untainted and the law applies; else the result is marked at the top
          cases hm : (flagsDeepList args).m
          · refine tw_withFl (hlaw _ r ?_ hr) hfl
            intro a ha
            obtain ⟨b, hb, rfl⟩ := List.mem_map.mp ha
            exact untainted_unmarkDeep (untainted_of_tw (hargs b hb) (flagsDeepList_m_false hm b hb))
          · exact tw_withFl_marked _ hm

theorem convertArgs_tw (spec : FuncSpec) : ∀ (vs : List Val) (ps : List Ty), (∀ a ∈ vs, tw false a = true) →
    ∀ a ∈ (convertArgs spec vs ps).1, tw false a = true
  | [], _, _ => by simp [convertArgs]
  | v :: vs, ps, h => by
    have ih := convertArgs_tw spec vs (nextParam spec ps).2 (fun a ha => h a (by simp [ha]))
    have hv := h v (by simp)
    rw [convertArgs_cons]
    split
    · exact List.forall_mem_cons.mpr ⟨hv, ih⟩
    · split
      · exact List.forall_mem_cons.mpr ⟨tryConvert_tw hv ‹_›, ih⟩
      · exact List.forall_mem_cons.mpr ⟨hv, ih⟩

theorem frags_convertArgs (spec : FuncSpec) : ∀ (vs : List Val) (ps : List Ty),
    ∀ d ∈ (convertArgs spec vs ps).2, d.frags = []
  | [], _ => by simp [convertArgs]
  | v :: vs, ps => by
    have ih := frags_convertArgs spec vs (nextParam spec ps).2
    rw [convertArgs_cons]
    split
    · exact ih
    · split
      · exact ih
      · exact List.forall_mem_cons.mpr ⟨frags_convErr ‹_› _, ih⟩

/-- what the expansion of the final argument hands on -/
def ExpTw (x : Except Out (List Val × List Diag)) : Prop :=
  match x with
  | .error o => tw false o.1 = true
  | .ok (xs, _) => ∀ a ∈ xs, tw false a = true

/-- the same for its diagnostics, on either exit -/
def ExpFrags (x : Except Out (List Val × List Diag)) : Prop :=
  match x with
  | .error o => fragsClean o.2
  | .ok (_, ed) => fragsClean ed

theorem expandOut_error {eo o : Out} (h : expandOut eo = .error o) : o.1 = Val.dynVal ∧ NoNew o.2 eo.2 := by
  obtain ⟨ev, ed⟩ := eo
  have hfree (w : String) : NoNew (ed ++ [⟨w, []⟩]) ed := (NoNew.refl ed).append (NoNew.free (frags_single_free rfl))
  unfold expandOut at h
  dsimp only at h
  by_cases h1 : hasErrors ed = true
  · rw [if_pos h1] at h; cases h; exact ⟨rfl, NoNew.refl _⟩
  rw [if_neg h1] at h
  by_cases h2 : (ev.typeOf == .dyn) = true
  · rw [if_pos h2] at h
    split at h <;> cases h
    · exact ⟨rfl, hfree _⟩
    · exact ⟨rfl, NoNew.refl _⟩
  rw [if_neg h2] at h
  split at h
  iterate 2
    · split at h
      · cases h; exact ⟨rfl, hfree _⟩
      · split at h <;> cases h
        exact ⟨rfl, NoNew.refl _⟩
  · cases h; exact ⟨rfl, hfree _⟩

theorem expandOut_tw (eo : Out) (h : tw false eo.1 = true) : ExpTw (expandOut eo) := by
  obtain ⟨ev, ed⟩ := eo
  cases hx : expandOut (ev, ed) with
  | error o =>
    show tw false o.1 = true
    rw [(expandOut_error hx).1]; exact tw_dynVal _
  | ok p =>
    obtain ⟨xs, d⟩ := p
    have e := (expandOut_ok hx).1
    subst e
    intro a ha
    obtain ⟨x, hx', rfl⟩ := List.mem_map.mp ha
    refine tw_withFl_cover (i := ev.fl.m) ?_ (fun h => h) (tw_flOK h)
    have := splatItems_tw h x (by unfold splatItems; unfold expandElems at hx'; exact hx')
    simpa using this

theorem expandOut_frags (eo : Out) (h : fragsClean eo.2) : ExpFrags (expandOut eo) := by
  obtain ⟨ev, ed⟩ := eo
  cases hx : expandOut (ev, ed) with
  | error o => exact fragsClean_of_NoNew (expandOut_error hx).2 h
  | ok p =>
    show fragsClean p.2
    rw [expandOut_ok_diags (xs := p.1) (d := p.2) hx]; exact h

theorem callOut_shape (spec : FuncSpec) (extra : List Val) (ed : List Diag) (outs : List Out) {r : Out}
    {cv : List Val × List Diag} (hc : convertArgs spec (outs.map (·.1) ++ extra) spec.params = cv)
    (hr : callOut spec (.ok (extra, ed)) outs = r) :
    (r.1 = Val.dynVal ∨ callFunc spec cv.1 = .ok r.1) ∧ NoNew r.2 (ed ++ outs.flatMap (·.2) ++ cv.2) := by
  subst hc hr
  unfold callOut
  dsimp only
  generalize outs.map (·.1) ++ extra = args
  by_cases h1 : args.length < spec.params.length
  · rw [if_pos h1]; exact ⟨Or.inl rfl, (((NoNew.refl ed).app_right _).app_right _).snoc rfl⟩
  rw [if_neg h1]
  by_cases h2 : (spec.varParam.isNone && decide (args.length > spec.params.length)) = true
  · rw [if_pos h2]; exact ⟨Or.inl rfl, (((NoNew.refl ed).app_right _).app_right _).snoc rfl⟩
  rw [if_neg h2]
  split
  · exact ⟨Or.inl rfl, NoNew.refl _⟩
  split
  · exact ⟨Or.inr ‹_›, NoNew.refl _⟩
  · exact ⟨Or.inl rfl, (NoNew.refl _).snoc rfl⟩
  · exact ⟨Or.inl rfl, (NoNew.refl _).snoc rfl⟩

theorem callOut_tw (spec : FuncSpec) (x : Except Out (List Val × List Diag)) (outs : List Out)
    (hx : ExpTw x) (ho : ∀ o ∈ outs, tw false o.1 = true)
    (hlaw : ∀ as r, (∀ a ∈ as, untainted a = true) → spec.impl as = .ok r → tw false r = true) :
    tw false (callOut spec x outs).1 = true := by
  match x, hx with
  | .error o, hx => exact hx
  | .ok (extra, ed), hx =>
    rcases (callOut_shape spec extra ed outs rfl rfl).1 with e | e
    · rw [e]; exact tw_dynVal _
    · refine callFunc_tw spec _ _ (convertArgs_tw spec _ _ fun a ha => ?_) hlaw e
      rcases List.mem_append.mp ha with ha | ha
      · obtain ⟨o, ho', rfl⟩ := List.mem_map.mp ha
        exact ho o ho'
      · exact hx a ha

theorem callOut_frags (spec : FuncSpec) (x : Except Out (List Val × List Diag)) (outs : List Out)
    (hx : ExpFrags x) (ho : ∀ o ∈ outs, fragsClean o.2) : fragsClean (callOut spec x outs).2 := by
  match x, hx with
  | .error o, hx => exact hx
  | .ok (extra, ed), hx =>
    exact fragsClean_of_NoNew (callOut_shape spec extra ed outs rfl rfl).2
      (fragsClean_append (fragsClean_append hx (fragsClean_flatMap _ _ ho)) (fragsClean_free (frags_convertArgs _ _ _)))

end HclModel.Proofs
