import Proofs.UnknownsWf
/-!
`conc` between a concrete and an abstract run of a `for` expression.  A round is a test followed by the body proper
(`gate`, `gated` in `Proofs/EvalStepLemmas.lean`): where the test of the abstract run leaves the result known it has
passed, so has the test of the concrete run below it, and the two verdicts agree (`gated_conc`).
-/
namespace HclModel.Proofs.Unk
open Val

theorem concEnv_lookup : ∀ {ρc ρa : Env}, concEnv ρc ρa → ∀ x : String,
    match ρc.lookup x, ρa.lookup x with
    | some v, some a => conc v a = true
    | none, none => True
    | _, _ => False
  | [], [], _, x => by simp [Env.lookup, lookupKey]
  | [], _ :: _, h, _ => by simp [concEnv] at h
  | _ :: _, [], h, _ => by simp [concEnv] at h
  | (k1, v) :: ρc, (k2, a) :: ρa, h, x => by
    obtain ⟨h1, h2, h3⟩ := h
    subst h1
    simp only [Env.lookup, lookupKey]
    by_cases hk : x = k1
    · simp [hk, h2]
    · simp only [beq_iff_eq, hk, if_false]
      exact concEnv_lookup h3 x

theorem concEnv_cons {ρc ρa : Env} (h : concEnv ρc ρa) (x : String) {v a : Val} (hv : conc v a = true) :
    concEnv ((x, v) :: ρc) ((x, a) :: ρa) := ⟨rfl, hv, h⟩

theorem concEnv_bindIter {ρc ρa : Env} (h : concEnv ρc ρa) (kv vv : String) {k v ka va : Val}
    (hk : conc k ka = true) (hv : conc v va = true) :
    concEnv (bindIter ρc kv vv k v) (bindIter ρa kv vv ka va) := by
  unfold bindIter
  split
  · exact concEnv_cons h _ hv
  · exact concEnv_cons (concEnv_cons h _ hk) _ hv

theorem conc_dynVal (v : Val) : conc v Val.dynVal = true := by simp [dynVal, conc_unk]

def RelOut (oc oa : Out) : Prop := oc.2 = [] → oa.2 = [] → conc oc.1 oa.1 = true

/-- the concrete and the abstract value of `e` are consistent, in all consistent scopes -/
def ConcAt (F : Funcs) (e : Expr) : Prop :=
  ∀ ρc ρa, concEnv ρc ρa → wfEnv ρc → RelOut (eval (strictCx F) ρc e) (eval (strictCx F) ρa e)

/-- `Proofs.All2` (`Proofs/MarksTmpl.lean`) between lists of one type -/
inductive All2 {α : Type} (R : α → α → Prop) : List α → List α → Prop
  | nil : All2 R [] []
  | cons {x y : α} {xs ys : List α} : R x y → All2 R xs ys → All2 R (x :: xs) (y :: ys)

theorem foldl_nodiag {σ α : Type} (d : σ → List Diag) (step : σ → α → σ)
    (hd : ∀ st x, d (step st x) = [] → d st = []) : ∀ (xs : List α) (st : σ), d (xs.foldl step st) = [] → d st = []
  | [], _, h => h
  | x :: xs, st, h => hd st x (foldl_nodiag d step hd xs (step st x) h)

/-- Two folds over related lists, from related states, end in related states, if the steps preserve the
    relation as long as neither run has a diagnostic (`d` reads the diagnostics of a state, and steps only add
    to them). -/
theorem foldl_rel {σ α : Type} (d : σ → List Diag) (stepc stepa : σ → α → σ)
    (hdc : ∀ st x, d (stepc st x) = [] → d st = []) (hda : ∀ st x, d (stepa st x) = [] → d st = [])
    (R : σ → σ → Prop) (Rel : α → α → Prop) :
    ∀ (xs ys : List α), All2 Rel xs ys →
      (∀ sc sa x y, x ∈ xs → Rel x y → R sc sa → d (stepc sc x) = [] → d (stepa sa y) = [] →
        R (stepc sc x) (stepa sa y)) →
      ∀ sc sa, R sc sa → d (xs.foldl stepc sc) = [] → d (ys.foldl stepa sa) = [] →
        R (xs.foldl stepc sc) (ys.foldl stepa sa)
  | [], [], _, _, sc, sa, hr, _, _ => hr
  | x :: xs, y :: ys, hf, hstep, sc, sa, hr, hc, ha => by
    cases hf with
    | cons hxy hrest =>
      exact foldl_rel d stepc stepa hdc hda R Rel xs ys hrest
        (fun sc sa x' y' hx' => hstep sc sa x' y' (by simp [hx']))
        _ _ (hstep sc sa x y (by simp) hxy hr (foldl_nodiag d stepc hdc xs _ hc) (foldl_nodiag d stepa hda ys _ ha))
        hc ha

def RelEl (x y : Val × Val) : Prop := conc x.1 y.1 = true ∧ conc x.2 y.2 = true

theorem idx_rel (kf kg : Fl) : ∀ (xs ys : List Val) (s : Nat), concL xs ys = true →
    All2 RelEl (((List.range' s xs.length).zip xs).map fun (i, x) => (Val.num kf (i : Rat), x))
      (((List.range' s ys.length).zip ys).map fun (i, x) => (Val.num kg (i : Rat), x))
  | [], [], _, _ => All2.nil
  | [], _ :: _, _, h => by simp [concL] at h
  | _ :: _, [], _, h => by simp [concL] at h
  | x :: xs, y :: ys, s, h => by
    simp only [concL, Bool.and_eq_true] at h
    simp only [List.length_cons, List.range'_succ, List.zip_cons_cons, List.map_cons]
    exact All2.cons ⟨by simp [conc], h.1⟩ (idx_rel kf kg xs ys (s + 1) h.2)

theorem fields_rel (kf kg : Fl) : ∀ (xs ys : List (String × Val)), concF xs ys = true →
    All2 RelEl (xs.map fun (k, x) => (Val.str kf k, x)) (ys.map fun (k, x) => (Val.str kg k, x))
  | [], [], _ => All2.nil
  | [], _ :: _, h => by simp [concF] at h
  | _ :: _, [], h => by simp [concF] at h
  | (k, x) :: xs, (l, y) :: ys, h => by
    simp only [concF, Bool.and_eq_true, beq_iff_eq] at h
    simp only [List.map_cons]
    exact All2.cons ⟨by simp [conc, h.1.1], h.1.2⟩ (fields_rel kf kg xs ys h.2)

theorem elements_conc {vc va : Val} {elsa : List (Val × Val)} (h : conc vc va = true)
    (he : elements va = some elsa) :
    ∃ elsc, elements vc = some elsc ∧ All2 RelEl elsc elsa := by
  cases va <;> simp [elements] at he
  case list g t ys =>
    obtain ⟨f, xs, rfl, hl⟩ := conc_list_inv h
    subst he
    refine ⟨_, rfl, ?_⟩
    simp only [List.range_eq_range']
    exact idx_rel _ _ xs ys 0 hl
  case tuple g ys =>
    obtain ⟨f, xs, rfl, hl⟩ := conc_tuple_inv h
    subst he
    refine ⟨_, rfl, ?_⟩
    simp only [List.range_eq_range']
    exact idx_rel _ _ xs ys 0 hl
  case map g t ys =>
    obtain ⟨f, xs, rfl, hl⟩ := conc_map_inv h
    subst he
    exact ⟨_, rfl, fields_rel _ _ xs ys hl⟩
  case object g ys =>
    obtain ⟨f, xs, rfl, hl⟩ := conc_object_inv h
    subst he
    exact ⟨_, rfl, fields_rel _ _ xs ys hl⟩

theorem elements_typeOf {v : Val} {els : List (Val × Val)} (h : elements v = some els) :
    (v.typeOf == Ty.dyn) = false := by
  cases v <;> simp [elements] at h <;> simp [typeOf]

def GRel (p q : String × List Val) : Prop := p.1 = q.1 ∧ concL p.2 q.2 = true

/-- the loop invariant: while the abstract run is known so is the concrete one, and what they collected is
consistent -/
def RSt (sc sa : ForSt) : Prop :=
  sa.known = true → sc.known = true ∧ concL sc.vals sa.vals = true ∧ All2 GRel sc.kvs sa.kvs

theorem forOut_conc {coc coa : Out} {pc pa : Option Out} {stepc stepa : ForSt → Val × Val → ForSt}
    {fin : ForSt → Out} (hfd : ∀ st, (fin st).2 = st.diags)
    (hlec : ∀ st kv, StLe st (stepc st kv)) (hlea : ∀ st kv, StLe st (stepa st kv))
    (ihc : RelOut coc coa) (ihw : coc.2 = [] → wfVal coc.1 = true)
    (hstep : ∀ sc sa x y, wfVal x.1 = true ∧ wfVal x.2 = true → RelEl x y → RSt sc sa →
      (stepc sc x).diags = [] → (stepa sa y).diags = [] → RSt (stepc sc x) (stepa sa y))
    (hfin : ∀ sc sa, RSt sc sa → conc (fin sc).1 (fin sa).1 = true)
    (hc : (forOut coc pc stepc fin).2 = []) (ha : (forOut coa pa stepa fin).2 = []) :
    conc (forOut coc pc stepc fin).1 (forOut coa pa stepa fin).1 = true := by
  have rc := forOut_ready hfd hlec hc
  have ra := forOut_ready hfd hlea ha
  rw [forOut_eq rc] at hc ⊢
  rw [forOut_eq ra] at ha ⊢
  cases hda : (coa.1.typeOf == Ty.dyn)
  case true => simp only [if_true]; exact conc_dynVal _
  simp only [hda, Bool.false_eq_true, if_false] at ha ⊢
  cases hela : elements coa.1.unmark.1 with
  | none => exact conc_dynVal_withFl _ _
  | some elsa =>
    have hcu : conc coc.1.unmark.1 coa.1.unmark.1 = true := by simpa using ihc rc.1 ra.1
    obtain ⟨elsc, helc, hrel⟩ := elements_conc hcu hela
    -- the concrete collection has the constructor of the abstract one
    have hdc : (coc.1.typeOf == Ty.dyn) = false := by simpa using elements_typeOf helc
    have hwf := elements_wf (cv := coc.1.unmark.1) (by simpa using ihw rc.1) helc
    simp only [hela, hfd] at ha ⊢
    simp only [hdc, helc, hfd, Bool.false_eq_true, if_false] at hc ⊢
    exact hfin _ _ (foldl_rel (·.diags) stepc stepa (fun st x => (hlec st x).diags) (fun st x => (hlea st x).diags)
      RSt RelEl elsc elsa hrel (fun sc sa x y hx hxy hr h1 h2 => hstep sc sa x y (hwf x hx) hxy hr h1 h2) _ _
      (fun _ => ⟨rfl, rfl, All2.nil⟩) hc ha)

theorem tryConvert_conc {vc va rc ra : Val} {t : Ty} (h : conc vc va = true) (ht : t.noDyn = true)
    (hc : tryConvert vc t = .ok rc) (ha : tryConvert va t = .ok ra) : conc rc ra = true := by
  rcases tryConvert_cases vc t with ⟨x, h1, h2⟩ | ⟨d, h1⟩ <;> rw [h1] at hc <;> cases hc
  rcases tryConvert_cases va t with ⟨y, h3, h4⟩ | ⟨d, h3⟩ <;> rw [h3] at ha <;> cases ha
  exact convert_conc _ _ _ _ _ h ht h2 h4

theorem tryConvert_str_conc {vc va : Val} {fc fa : Fl} {sc sa : String} (h : conc vc va = true)
    (hc : tryConvert vc .str = .ok (.str fc sc)) (ha : tryConvert va .str = .ok (.str fa sa)) : sc = sa := by
  obtain ⟨f, e⟩ := conc_str_inv (tryConvert_conc h rfl hc ha)
  cases e; rfl

/-- the verdicts on the converted operands of the two runs agree: both skip the element, or both hand on
related things -/
def VerdictConc {α : Type} (ty : Ty) (verdict : Val → Option (Option α)) (S : α → α → Prop) : Prop :=
  ∀ {oc oa bc ba : Val}, conc oc oa = true → oa.isKnown = true → oa.isNull = false →
    tryConvert oc ty = .ok bc → tryConvert oa ty = .ok ba →
    (verdict bc = some none ∧ verdict ba = some none) ∨
      ∃ x y, verdict bc = some (some x) ∧ verdict ba = some (some y) ∧ S x y

theorem condVerdict_conc : VerdictConc .bool condVerdict fun _ _ => True := by
  intro oc oa bc ba h hk hn hc ha
  obtain ⟨fa, y, rfl⟩ := cond_bool hk hn (tryConvert_ok_iff.mp ha)
  obtain ⟨fc, rfl⟩ := conc_bool_inv (tryConvert_conc h rfl hc ha)
  cases y
  · exact .inl ⟨rfl, rfl⟩
  · exact .inr ⟨(), (), rfl, rfl, trivial⟩

theorem keyVerdict_conc : VerdictConc .str keyVerdict fun p q => p.2 = q.2 := by
  intro oc oa bc ba h hk hn hc ha
  rcases tryConvert_str hn ha with ⟨-, s, rfl⟩ | ⟨hu, -⟩
  case inr => rw [hk] at hu; cases hu
  obtain ⟨fc, rfl⟩ := conc_str_inv (tryConvert_conc h rfl hc ha)
  exact .inr ⟨_, _, rfl, rfl, rfl⟩

/-- A round of the two runs, on operands that are consistent if they have no diagnostics.  If the abstract round
leaves the result known, its test has passed; the concrete operand is known as well, so the concrete test, being
without diagnostics, has passed too; the verdicts agree, and the bodies run in both or in neither. -/
theorem gated_conc {α : Type} {nullMsg errMsg : String} {ty : Ty} {early : Bool} {verdict : Val → Option (Option α)}
    {S : α → α → Prop} (hver : VerdictConc ty verdict S) {bodyc bodya : α → ForSt → ForSt}
    (hlec : ∀ a st, StLe st (bodyc a st)) (hlea : ∀ a st, StLe st (bodya a st))
    {oc oa : Out} {sc sa : ForSt} (hrel : RelOut oc oa) (hr : RSt sc sa)
    (hbody : ∀ x y, S x y → ∀ sc sa, RSt sc sa → (bodyc x sc).diags = [] → (bodya y sa).diags = [] →
      RSt (bodyc x sc) (bodya y sa))
    (h1 : (gated (gate nullMsg errMsg ty early verdict oc sc) bodyc).diags = [])
    (h2 : (gated (gate nullMsg errMsg ty early verdict oa sa) bodya).diags = []) :
    RSt (gated (gate nullMsg errMsg ty early verdict oc sc) bodyc)
      (gated (gate nullMsg errMsg ty early verdict oa sa) bodya) := by
  intro hka
  have lec := gated_le (gate nullMsg errMsg ty early verdict oc sc) hlec
  have lea := gated_le (gate nullMsg errMsg ty early verdict oa sa) hlea
  have hco := hrel (gate_operand_nil (gate_le _ _) lec h1) (gate_operand_nil (gate_le _ _) lea h2)
  obtain ⟨ksa, hna, kna, ba, ra, hba, hra, ea⟩ := gate_of_known (lea.known_of hka)
  have hR := hr ksa
  have hgc := gate_known (lec.diags h1) hR.1 (conc_isKnown hco kna) fun _ bc hbc => by
    rcases hver hco kna hna hbc hba with ⟨e, -⟩ | ⟨x, y, e, -⟩ <;> rw [e] <;> exact fun h => nomatch h
  obtain ⟨-, -, -, bc, rc, hbc, hrc, ec⟩ := gate_of_known hgc
  rw [ec] at h1 ⊢
  rw [ea] at h2 hka ⊢
  rcases hver hco kna hna hbc hba with ⟨e1, e2⟩ | ⟨x, y, e1, e2, hs⟩ <;> rw [hrc] at e1 <;> rw [hra] at e2 <;>
    cases e1 <;> cases e2
  · exact hR
  · exact hbody x y hs _ _ (fun _ => hR) h1 h2 hka

theorem tupStep_conc {evc eva : Val → Val → Out} {sc sa : ForSt} {x y : Val × Val}
    (hev : RelOut (evc x.1 x.2) (eva y.1 y.2)) (hr : RSt sc sa)
    (hdc : (tupStep evc sc x).diags = []) (hda : (tupStep eva sa y).diags = []) :
    RSt (tupStep evc sc x) (tupStep eva sa y) := by
  intro hka
  obtain ⟨kc, cl, cg⟩ := hr hka
  simp only [tupStep, List.append_eq_nil_iff] at hdc hda ⊢
  exact ⟨kc, concL_append cl (concL_singleton (hev hdc.2 hda.2)), cg⟩

/-- the optional condition is `cond.map f` in both runs -/
theorem forTupleStep_conc {γ : Type} {evc eva : Val → Val → Out} {fc fa : γ → Val → Val → Out} {cond : Option γ}
    {sc sa : ForSt} {x y : Val × Val} (hev : RelOut (evc x.1 x.2) (eva y.1 y.2))
    (hf : ∀ ce, cond = some ce → RelOut (fc ce x.1 x.2) (fa ce y.1 y.2)) (hr : RSt sc sa)
    (hdc : (forTupleStep evc (cond.map fc) sc x).diags = []) (hda : (forTupleStep eva (cond.map fa) sa y).diags = []) :
    RSt (forTupleStep evc (cond.map fc) sc x) (forTupleStep eva (cond.map fa) sa y) := by
  cases cond with
  | none => exact tupStep_conc hev hr hdc hda
  | some ce =>
    simp only [Option.map_some] at hdc hda ⊢
    rw [forTupleStep_gate] at hdc hda
    rw [forTupleStep_gate, forTupleStep_gate]
    exact gated_conc condVerdict_conc (fun _ st => tupStep_le evc st x) (fun _ st => tupStep_le eva st y) (hf ce rfl) hr
      (fun _ _ _ _ _ hr => tupStep_conc hev hr) hdc hda

theorem concG_groupInsert {k : String} {v w : Val} (hvw : conc v w = true) :
    ∀ {a b : List (String × List Val)}, All2 GRel a b → All2 GRel (groupInsert k v a) (groupInsert k w b)
  | [], [], _ => All2.cons ⟨rfl, concL_singleton hvw⟩ All2.nil
  | (k1, vs) :: a, (k2, ws) :: b, h => by
    cases h with
    | cons h1 h2 =>
      obtain ⟨hk, hl⟩ := h1
      simp only at hk hl
      subst hk
      simp only [groupInsert]
      split
      · exact All2.cons ⟨rfl, concL_singleton hvw⟩ (All2.cons ⟨rfl, hl⟩ h2)
      · split
        · exact All2.cons ⟨rfl, concL_append hl (concL_singleton hvw)⟩ h2
        · exact All2.cons ⟨rfl, hl⟩ (concG_groupInsert hvw h2)

theorem concG_lookup {k : String} : ∀ {a b : List (String × List Val)}, All2 GRel a b →
    (lookupKey k a).isSome = (lookupKey k b).isSome
  | [], [], _ => rfl
  | (k1, vs) :: a, (k2, ws) :: b, h => by
    cases h with
    | cons h1 h2 =>
      obtain ⟨hk, _⟩ := h1
      simp only at hk
      subst hk
      simp only [lookupKey]
      split
      · rfl
      · exact concG_lookup h2

theorem concG_headD : ∀ {a b : List (String × List Val)}, All2 GRel a b →
    concF (a.map fun (k, vs) => (k, vs.headD Val.dynVal)) (b.map fun (k, vs) => (k, vs.headD Val.dynVal)) = true
  | [], [], _ => rfl
  | (k1, vs) :: a, (k2, ws) :: b, h => by
    cases h with
    | cons h1 h2 =>
      obtain ⟨hk, hl⟩ := h1
      simp only at hk hl
      subst hk
      simp only [List.map_cons, concF, beq_self_eq_true, Bool.true_and, Bool.and_eq_true]
      refine ⟨?_, concG_headD h2⟩
      cases vs <;> cases ws <;> simp [concL] at hl ⊢
      · exact conc_dynVal _
      · exact hl.1

theorem concG_tuple : ∀ {a b : List (String × List Val)}, All2 GRel a b →
    concF (a.map fun (k, vs) => (k, Val.tuple Fl.none vs)) (b.map fun (k, vs) => (k, Val.tuple Fl.none vs)) = true
  | [], [], _ => rfl
  | (k1, vs) :: a, (k2, ws) :: b, h => by
    cases h with
    | cons h1 h2 =>
      obtain ⟨hk, hl⟩ := h1
      simp only at hk hl
      subst hk
      simp only [List.map_cons, concF, beq_self_eq_true, Bool.true_and, Bool.and_eq_true, conc]
      exact ⟨hl, concG_tuple h2⟩

theorem objIns_conc (g : Bool) (kfc kfa : Fl) (k : String) {voc voa : Out} {sc sa : ForSt}
    (hv : RelOut voc voa) (hr : RSt sc sa)
    (hdc : (objIns g kfc k voc sc).diags = []) (hda : (objIns g kfa k voa sa).diags = []) :
    RSt (objIns g kfc k voc sc) (objIns g kfa k voa sa) := by
  intro hka
  obtain ⟨kc, cl, cg⟩ := hr ((objIns_keeps ..).1 ▸ hka)
  obtain ⟨dc, ec⟩ := objIns_nil hdc
  obtain ⟨da, ea⟩ := objIns_nil hda
  refine ⟨(objIns_keeps ..).1.trans kc, ?_, ?_⟩
  · rw [(objIns_keeps ..).2, (objIns_keeps ..).2]; exact cl
  · rw [ec, ea]; exact concG_groupInsert (hv dc da) cg

theorem objStep_conc {g : Bool} {ekc eka evc eva : Val → Val → Out} {sc sa : ForSt} {x y : Val × Val}
    (hek : RelOut (ekc x.1 x.2) (eka y.1 y.2)) (hev : RelOut (evc x.1 x.2) (eva y.1 y.2)) (hr : RSt sc sa)
    (hdc : (objStep g ekc evc sc x).diags = []) (hda : (objStep g eka eva sa y).diags = []) :
    RSt (objStep g ekc evc sc x) (objStep g eka eva sa y) := by
  rw [objStep_gate] at hdc hda
  rw [objStep_gate, objStep_gate]
  refine gated_conc keyVerdict_conc (fun (p : Fl × String) st => (objIns_le g p.1 p.2 (evc x.1 x.2) st).of_add)
    (fun (p : Fl × String) st => (objIns_le g p.1 p.2 (eva y.1 y.2) st).of_add) hek hr ?_ hdc hda
  intro ⟨kfc, k⟩ ⟨kfa, k'⟩ hp sc sa hr d1 d2
  -- both runs file the value under the same key
  cases (hp : k = k')
  exact objIns_conc g kfc kfa k hev hr d1 d2

theorem forObjectStep_conc {γ : Type} {g : Bool} {ekc eka evc eva : Val → Val → Out} {fc fa : γ → Val → Val → Out}
    {cond : Option γ} {sc sa : ForSt} {x y : Val × Val} (hek : RelOut (ekc x.1 x.2) (eka y.1 y.2))
    (hev : RelOut (evc x.1 x.2) (eva y.1 y.2))
    (hf : ∀ ce, cond = some ce → RelOut (fc ce x.1 x.2) (fa ce y.1 y.2)) (hr : RSt sc sa)
    (hdc : (forObjectStep g ekc evc (cond.map fc) sc x).diags = [])
    (hda : (forObjectStep g eka eva (cond.map fa) sa y).diags = []) :
    RSt (forObjectStep g ekc evc (cond.map fc) sc x) (forObjectStep g eka eva (cond.map fa) sa y) := by
  cases cond with
  | none => exact objStep_conc hek hev hr hdc hda
  | some ce =>
    simp only [Option.map_some] at hdc hda ⊢
    rw [forObjectStep_gate] at hdc hda
    rw [forObjectStep_gate, forObjectStep_gate]
    exact gated_conc condVerdict_conc (fun _ st => objStep_le g ekc evc st x) (fun _ st => objStep_le g eka eva st y)
      (hf ce rfl) hr (fun _ _ _ _ _ hr => objStep_conc hek hev hr) hdc hda

section
variable (F : Funcs)

theorem conc_forTuple (ρc ρa : Env) (kv vv : String) (coll val : Expr) (cond : Option Expr)
    (ihc : RelOut (eval (strictCx F) ρc coll) (eval (strictCx F) ρa coll))
    (ihw : (eval (strictCx F) ρc coll).2 = [] → wfVal (eval (strictCx F) ρc coll).1 = true)
    (ihv : ConcAt F val)
    (ihce : ∀ ce, cond = some ce → ConcAt F ce)
    (henv : concEnv ρc ρa) (hw : wfEnv ρc)
    (hc : (eval (strictCx F) ρc (.forTuple kv vv coll val cond)).2 = [])
    (ha : (eval (strictCx F) ρa (.forTuple kv vv coll val cond)).2 = []) :
    conc (eval (strictCx F) ρc (.forTuple kv vv coll val cond)).1
      (eval (strictCx F) ρa (.forTuple kv vv coll val cond)).1 = true := by
  rw [eval_forTuple] at hc ha ⊢
  rw [eval_forTuple]
  refine forOut_conc forTupleFin_diags (forTupleStep_le _ _) (forTupleStep_le _ _) ihc ihw
    (fun sc sa x y hwx hxy hr h1 h2 => ?_) (fun sc sa hr => ?_) hc ha
  · have henv' := concEnv_bindIter henv kv vv hxy.1 hxy.2
    have hw' := wfEnv_bindIter (kv := kv) (vv := vv) hw hwx.1 hwx.2
    exact forTupleStep_conc (ihv _ _ henv' hw') (fun ce hce => ihce ce hce _ _ henv' hw') hr h1 h2
  · unfold forTupleFin
    cases hk : sa.known
    · exact conc_dynVal_withFl _ _
    · obtain ⟨kc, cl, -⟩ := hr hk
      simpa [kc, conc] using cl

theorem conc_forObject (ρc ρa : Env) (kv vv : String) (coll key val : Expr) (cond : Option Expr) (group : Bool)
    (ihc : RelOut (eval (strictCx F) ρc coll) (eval (strictCx F) ρa coll))
    (ihw : (eval (strictCx F) ρc coll).2 = [] → wfVal (eval (strictCx F) ρc coll).1 = true)
    (ihk : ConcAt F key)
    (ihv : ConcAt F val)
    (ihce : ∀ ce, cond = some ce → ConcAt F ce)
    (henv : concEnv ρc ρa) (hw : wfEnv ρc)
    (hc : (eval (strictCx F) ρc (.forObject kv vv coll key val cond group)).2 = [])
    (ha : (eval (strictCx F) ρa (.forObject kv vv coll key val cond group)).2 = []) :
    conc (eval (strictCx F) ρc (.forObject kv vv coll key val cond group)).1
      (eval (strictCx F) ρa (.forObject kv vv coll key val cond group)).1 = true := by
  rw [eval_forObject] at hc ha ⊢
  rw [eval_forObject]
  refine forOut_conc (forObjectFin_diags group) (forObjectStep_le group _ _ _) (forObjectStep_le group _ _ _) ihc ihw
    (fun sc sa x y hwx hxy hr h1 h2 => ?_) (fun sc sa hr => ?_) hc ha
  · have henv' := concEnv_bindIter henv kv vv hxy.1 hxy.2
    have hw' := wfEnv_bindIter (kv := kv) (vv := vv) hw hwx.1 hwx.2
    exact forObjectStep_conc (ihk _ _ henv' hw') (ihv _ _ henv' hw') (fun ce hce => ihce ce hce _ _ henv' hw') hr h1 h2
  · unfold forObjectFin
    cases hk : sa.known
    · exact conc_dynVal_withFl _ _
    · obtain ⟨kc, -, cg⟩ := hr hk
      cases group
      · simpa [kc, conc] using concG_headD cg
      · simpa [kc, conc] using concG_tuple cg
end

end HclModel.Proofs.Unk
