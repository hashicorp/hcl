import HclModel.Write.Nodes
import Proofs.ListLemmas
/-!
Refinement of the pointer-level model of one `hclwrite.Body` (`HclModel/Write/Nodes.lean`) against the list model
`specStep` (C12).  `Rep s cs`: the address list `cs` is the child list of `s`; `Inv s cs` adds the item-set
invariants, with attribute names and block identities unique as one condition on `key`.  Every `step` preserves
`Inv` and commutes with `specStep` on `absOf s cs` (`step_sim`); the steps that search the items meet in `Finds`.
-/
namespace HclModel.Nodes.Proofs
open HclModel.Nodes

theorem nodup_split {l r : List Nat} {a : Nat} (h : (l ++ a :: r).Nodup) :
    a ∉ l ∧ a ∉ r ∧ ∀ x ∈ l, x ∉ r := by
  rw [List.nodup_append, List.nodup_cons] at h
  exact ⟨fun hm => h.2.2 a hm a (by simp) rfl, h.2.1.1, fun x hx hr => h.2.2 x hx x (by simp [hr]) rfl⟩

theorem filter_ne_split {l r : List Nat} {a : Nat} (h : (l ++ a :: r).Nodup) :
    (l ++ a :: r).filter (fun x => decide (x ≠ a)) = l ++ r := by
  obtain ⟨hl, hr, _⟩ := nodup_split h
  have keep : ∀ m : List Nat, a ∉ m → m.filter (fun x => decide (x ≠ a)) = m := fun m hm =>
    List.filter_eq_self.mpr fun x hx => decide_eq_true fun e : x = a => hm (e ▸ hx)
  rw [List.filter_append, List.filter_cons, keep l hl, keep r hr, if_neg (by simp)]

theorem split_cases {l r l' r' : List Nat} {b : Nat} (h : l ++ r = l' ++ b :: r') :
    (∃ m, l' = l ++ m ∧ r = m ++ b :: r') ∨ ∃ m, l = l' ++ b :: m ∧ r' = m ++ r := by
  rcases List.append_eq_append_iff.mp h with ⟨m, h1, h2⟩ | ⟨m, h1, h2⟩
  · exact .inl ⟨m, h1, h2⟩
  · cases m with
    | nil => exact .inl ⟨[], by simpa using h1.symm, by simpa using h2.symm⟩
    | cons x m =>
      simp only [List.cons_append, List.cons.injEq] at h2
      exact .inr ⟨m, by rw [h1, h2.1], h2.2⟩

/-- `link` is stated by splitting `cs` at `a`, not by position: `appendNode` and `detach` split the list, and only
    `WellFormed` asks for positions (`Rep.link_idx`). -/
structure Rep (s : St) (cs : List Nat) : Prop where
  nodup : cs.Nodup
  first : s.first = cs.head?
  last : s.last = cs.getLast?
  att : ∀ a ∈ cs, (s.node a).attached = true ∧ a < s.next
  unatt : ∀ a, a ∉ cs → (s.node a).attached = false
  link : ∀ l a r, cs = l ++ a :: r → (s.node a).before = l.getLast? ∧ (s.node a).after = r.head?
  len : cs.length ≤ s.next

theorem rep_init : Rep St.init [] := by
  constructor <;> simp [St.init]

theorem walk_suffix {s : St} {cs : List Nat} (h : Rep s cs) :
    ∀ (fuel : Nat) (l r : List Nat), cs = l ++ r → r.length ≤ fuel → walk s fuel r.head? = r := by
  intro fuel
  induction fuel with
  | zero => intro l r _ hr; rw [List.length_eq_zero_iff.mp (Nat.le_zero.mp hr)]; rfl
  | succ fuel ih =>
    intro l r hcs hr
    cases r with
    | nil => rfl
    | cons a r =>
      simp only [List.head?_cons, walk]
      rw [(h.link l a r hcs).2, ih (l ++ [a]) r (by simp [hcs]) (by simpa using hr)]

theorem children_eq {s : St} {cs : List Nat} (h : Rep s cs) : s.children = cs := by
  unfold St.children
  rw [h.first]
  exact walk_suffix h s.next [] cs rfl h.len

theorem appendNode_node {s : St} (c : Content) (hl : ∀ l, s.last = some l → l ≠ s.next) (x : Nat) :
    (appendNode s c).1.node x =
      if x = s.next then { content := c, attached := true, before := s.last, after := none }
      else if s.last = some x then { s.node x with after := some s.next } else s.node x := by
  unfold appendNode
  cases hlast : s.last with
  | none => simp [upd]
  | some l =>
    have hne := hl l hlast
    simp only [upd]
    by_cases h1 : x = s.next
    · subst h1; simp [Ne.symm hne]
    · by_cases h2 : x = l
      · subst h2; simp [h1]
      · have : l ≠ x := fun h => h2 h.symm
        simp [h1, h2, this]

theorem rep_last_ne {s : St} {cs : List Nat} (h : Rep s cs) : ∀ l, s.last = some l → l ≠ s.next := by
  intro l hl
  have : l ∈ cs := by
    rw [h.last] at hl
    exact List.mem_of_getLast? hl
  have := (h.att l this).2
  omega

theorem rep_append {s : St} {cs : List Nat} (h : Rep s cs) (c : Content) :
    Rep (appendNode s c).1 (cs ++ [s.next]) := by
  have hnode := appendNode_node c (rep_last_ne h)
  have hnotin : s.next ∉ cs := fun hm => by have := (h.att _ hm).2; omega
  refine ⟨?_, ?_, ?_, ?_, ?_, ?_, ?_⟩
  · rw [List.nodup_append]
    refine ⟨h.nodup, by simp, ?_⟩
    intro a ha b hb
    simp at hb; subst hb
    intro hab; subst hab; exact hnotin ha
  · show (match s.first with | none => some s.next | some f => some f) = _
    rw [h.first]
    cases cs <;> simp
  · show some s.next = _
    simp
  · intro a ha
    show ((appendNode s c).1.node a).attached = true ∧ a < s.next + 1
    rw [hnode]
    simp at ha
    rcases ha with ha | ha
    · have := h.att a ha
      have hne : a ≠ s.next := by omega
      simp only [hne, if_false]
      split <;> simp [this.1] <;> omega
    · subst ha; simp
  · intro a ha
    simp at ha
    rw [hnode]
    simp only [ha.2, if_false]
    have := h.unatt a ha.1
    split <;> simp [this]
  · intro l a r hsplit
    rw [hnode]
    rcases List.eq_nil_or_concat r with rfl | ⟨r, x, rfl⟩
    · -- `a` is the new node
      obtain ⟨rfl, ha⟩ := List.append_inj' hsplit rfl
      cases ha
      rw [if_pos rfl]
      exact ⟨h.last, rfl⟩
    · -- `a` is an old node, the last one iff nothing stood to its right
      rw [List.concat_eq_append, ← List.cons_append, ← List.append_assoc] at hsplit
      obtain ⟨rfl, hx⟩ := List.append_inj' hsplit rfl
      cases hx
      have hlk := h.link l a r rfl
      have hne : a ≠ s.next := fun e => hnotin (e ▸ by simp)
      rw [if_neg hne, h.last]
      cases r with
      | nil => rw [if_pos (by simp)]; exact ⟨hlk.1, rfl⟩
      | cons y r =>
        have : (l ++ a :: y :: r).getLast? ≠ some a := fun e =>
          (nodup_split h.nodup).2.1 (List.mem_of_getLast? (by simpa [List.getLast?_append] using e))
        rw [if_neg this]; exact hlk
  · show (cs ++ [s.next]).length ≤ s.next + 1
    have := h.len
    simp; omega

theorem upd_after (f : Nat → Node) (b : Nat) (v : Option Nat) :
    upd f b { f b with after := v } = fun x => { f x with after := if b = x then v else (f x).after } := by
  funext x; unfold upd; split
  · subst_vars; simp
  · rename_i h; simp [Ne.symm h]

theorem upd_before (f : Nat → Node) (b : Nat) (v : Option Nat) :
    upd f b { f b with before := v } = fun x => { f x with before := if b = x then v else (f x).before } := by
  funext x; unfold upd; split
  · subst_vars; simp
  · rename_i h; simp [Ne.symm h]

theorem detach_node {s : St} {a : Nat} (hatt : (s.node a).attached = true) (x : Nat) :
    (detach s a).node x =
      if x = a then { s.node a with attached := false, before := none, after := none }
      else { s.node x with
        before := if (s.node a).after = some x then (s.node a).before else (s.node x).before
        after := if (s.node a).before = some x then (s.node a).after else (s.node x).after } := by
  unfold detach
  simp only [hatt, Bool.not_true, Bool.false_eq_true, if_false]
  cases (s.node a).before <;> cases (s.node a).after <;> dsimp only <;>
    (try rw [upd_after]) <;> (try rw [upd_before]) <;>
    unfold upd <;> split <;> subst_vars <;> simp [eq_comm]

theorem detach_content (s : St) (a : Nat) (x : Nat) :
    ((detach s a).node x).content = (s.node x).content := by
  by_cases hatt : (s.node a).attached = true
  · rw [detach_node hatt]; split
    · subst_vars; rfl
    · rfl
  · simp [detach, hatt]

theorem detach_first {s : St} {a : Nat} (hatt : (s.node a).attached = true) :
    (detach s a).first = if s.first = some a then (s.node a).after else s.first := by
  unfold detach; simp [hatt]

theorem detach_last {s : St} {a : Nat} (hatt : (s.node a).attached = true) :
    (detach s a).last = if s.last = some a then (s.node a).before else s.last := by
  unfold detach; simp [hatt]

theorem detach_next (s : St) (a : Nat) : (detach s a).next = s.next := by
  unfold detach; by_cases h : (s.node a).attached = true <;> simp [h]

theorem detach_items (s : St) (a : Nat) : (detach s a).items = s.items := by
  unfold detach; by_cases h : (s.node a).attached = true <;> simp [h]

theorem rep_detach {s : St} {cs : List Nat} (h : Rep s cs) {a : Nat} (ha : a ∈ cs) :
    Rep (detach s a) (cs.filter (fun x => decide (x ≠ a))) := by
  have hatt := (h.att a ha).1
  obtain ⟨l, r, rfl⟩ := List.append_of_mem ha
  obtain ⟨hal, har, hlr⟩ := nodup_split h.nodup
  have hlk := h.link l a r rfl
  have hmem : ∀ b, b ∈ (l ++ a :: r).filter (fun x => decide (x ≠ a)) ↔ b ∈ l ++ a :: r ∧ b ≠ a :=
    fun b => by rw [List.mem_filter, decide_eq_true_eq]
  rw [filter_ne_split h.nodup] at hmem ⊢
  refine ⟨?_, ?_, ?_, ?_, ?_, ?_, ?_⟩
  · exact h.nodup.sublist (by simp)
  · rw [detach_first hatt, h.first, hlk.2]
    cases l with
    | nil => simp
    | cons x l =>
      have : x ≠ a := fun e => hal (e ▸ by simp)
      simp [this]
  · rw [detach_last hatt, h.last, hlk.1]
    cases r with
    | nil => simp
    | cons y r =>
      have : (y :: r).getLast? ≠ some a := fun e => har (List.mem_of_getLast? e)
      simp [List.getLast?_append, this]
  · intro b hb
    obtain ⟨hb, hba⟩ := (hmem b).mp hb
    rw [detach_node hatt, if_neg hba, detach_next]
    exact h.att b hb
  · intro b hb
    rw [detach_node hatt]
    by_cases hba : b = a
    · rw [if_pos hba]
    · rw [if_neg hba]
      exact h.unatt b fun hm => hb ((hmem b).mpr ⟨hm, hba⟩)
  · intro l' b r' hsplit
    have hba : b ≠ a := ((hmem b).mp (hsplit ▸ by simp)).2
    rw [detach_node hatt, if_neg hba]
    show (if _ then _ else _) = _ ∧ (if _ then _ else _) = _
    rw [hlk.1, hlk.2]
    rcases split_cases hsplit with ⟨m, rfl, rfl⟩ | ⟨m, rfl, rfl⟩
    · -- `b` stood to the right of `a`, next to it iff `m = []`
      have hlb := h.link (l ++ a :: m) b r' (by simp)
      have hbl : l.getLast? ≠ some b := fun e => hlr b (List.mem_of_getLast? e) (by simp)
      rw [if_neg hbl, hlb.1, hlb.2]
      refine ⟨?_, rfl⟩
      cases m with
      | nil => simp
      | cons y m =>
        have hr : (y :: m ++ b :: r').Nodup := (List.nodup_cons.mp (List.nodup_append.mp h.nodup).2.1).2
        have : y ≠ b := fun e => (nodup_split (l := y :: m) hr).1 (by simp [e])
        simp [List.getLast?_append, this]
    · -- `b` stood to the left of `a`, next to it iff `m = []`
      have hlb := h.link l' b (m ++ a :: r) (by simp)
      have hbr : r.head? ≠ some b := fun e => hlr b (by simp) (List.mem_of_head? e)
      rw [if_neg hbr, hlb.1, hlb.2]
      refine ⟨rfl, ?_⟩
      cases m with
      | nil => simp
      | cons y m =>
        have : (y :: m).getLast? ≠ some b := fun e =>
          (nodup_split (List.nodup_append.mp h.nodup).1).2.1 (List.mem_of_getLast? e)
        simp [List.getLast?_append, this]
  · rw [detach_next]
    exact Nat.le_trans (by simp) h.len

theorem rep_setContent {s : St} {cs : List Nat} (h : Rep s cs) (a : Nat) (c : Content) :
    Rep (setContent s a c) cs := by
  have hn : ∀ x, ((setContent s a c).node x).attached = (s.node x).attached ∧
      ((setContent s a c).node x).before = (s.node x).before ∧
      ((setContent s a c).node x).after = (s.node x).after := by
    intro x
    simp only [setContent, upd]
    split
    · subst_vars; simp
    · simp
  refine ⟨h.nodup, h.first, h.last, ?_, ?_, ?_, h.len⟩
  · intro b hb; rw [(hn b).1]; exact h.att b hb
  · intro b hb; rw [(hn b).1]; exact h.unatt b hb
  · intro l b r hs; rw [(hn b).2.1, (hn b).2.2]; exact h.link l b r hs

theorem setContent_content (s : St) (a : Nat) (c : Content) (x : Nat) :
    ((setContent s a c).node x).content = if x = a then c else (s.node x).content := by
  simp only [setContent, upd]
  split <;> simp

/-- the item of the simple model that a node's content stands for; token nodes stand for none -/
def item? : Content → Option Item
  | .attr n e => some (.attr n e)
  | .block t l i => some (.block t l i)
  | .tokens _ => none

def view (s : St) (a : Nat) : Option Item :=
  if a ∈ s.items then item? (s.node a).content else none

/-- `abs s` read off a given child list instead of the links (`abs_eq`) -/
def absOf (s : St) (cs : List Nat) : List Item := cs.filterMap (view s)

theorem abs_eq {s : St} {cs : List Nat} (h : Rep s cs) : abs s = absOf s cs := by
  unfold abs St.itemList absOf
  rw [children_eq h, List.filterMap_filter]
  apply filterMap_congr'
  intro x _
  simp only [view, List.contains_eq_mem, decide_eq_true_eq]
  split
  · unfold item?; cases (s.node x).content <;> rfl
  · rfl

theorem mem_absOf {s : St} {cs : List Nat} {it : Item} :
    it ∈ absOf s cs ↔ ∃ a ∈ cs, a ∈ s.items ∧ item? (s.node a).content = some it := by
  simp only [absOf, List.mem_filterMap, view]
  constructor
  · rintro ⟨a, ha, h⟩
    split at h
    · exact ⟨a, ha, ‹_›, h⟩
    · cases h
  · rintro ⟨a, ha, hi, h⟩
    exact ⟨a, ha, by simp [hi, h]⟩

theorem item?_attr {c : Content} {n : String} {e : Nat} : item? c = some (.attr n e) ↔ c = .attr n e := by
  cases c <;> simp [item?]

theorem item?_block {c : Content} {t : String} {l : List String} {i : Nat} :
    item? c = some (.block t l i) ↔ c = .block t l i := by
  cases c <;> simp [item?]

/-- what must be unique among the items of a body: an attribute's name, a block's identity -/
def key : Content → Option (String ⊕ Nat)
  | .attr n _ => some (.inl n)
  | .block _ _ i => some (.inr i)
  | .tokens _ => none

theorem key_inl {c : Content} {n : String} : key c = some (.inl n) ↔ ∃ e, c = .attr n e := by
  cases c <;> simp [key]

theorem key_inr {c : Content} {i : Nat} : key c = some (.inr i) ↔ ∃ t l, c = .block t l i := by
  cases c <;> simp [key]

structure Inv (s : St) (cs : List Nat) : Prop where
  rep : Rep s cs
  sub : ∀ a ∈ s.items, a ∈ cs
  inodup : s.items.Nodup
  keys : ∀ a ∈ s.items, ∀ b ∈ s.items, ∀ k,
    key (s.node a).content = some k → key (s.node b).content = some k → a = b

theorem Inv.names {s : St} {cs : List Nat} (h : Inv s cs) : ∀ a ∈ s.items, ∀ b ∈ s.items, ∀ n e e',
    (s.node a).content = .attr n e → (s.node b).content = .attr n e' → a = b :=
  fun a ha b hb n e e' hca hcb => h.keys a ha b hb (.inl n) (key_inl.mpr ⟨e, hca⟩) (key_inl.mpr ⟨e', hcb⟩)

theorem inv_init : Inv St.init [] := by
  refine ⟨rep_init, ?_, ?_, ?_⟩ <;> simp [St.init]

theorem rep_items {s : St} {cs : List Nat} (h : Rep s cs) (its : List Nat) :
    Rep { s with items := its } cs :=
  ⟨h.nodup, h.first, h.last, h.att, h.unatt, h.link, h.len⟩

theorem appendNode_content {s : St} {cs : List Nat} (h : Rep s cs) (c : Content) (x : Nat) :
    ((appendNode s c).1.node x).content = if x = s.next then c else (s.node x).content := by
  rw [appendNode_node c (rep_last_ne h)]
  split
  · rfl
  · split <;> rfl

theorem inv_lt {s : St} {cs : List Nat} (h : Inv s cs) {a : Nat} (ha : a ∈ s.items) : a ≠ s.next := by
  have := (h.rep.att a (h.sub a ha)).2
  omega

/-- Keys stay unique when the content at one address `a` becomes `c` and the item set changes from `its` to
    `its'`, gaining at most `a`: if `a` is an item afterwards, no other item may have the key of `c`. -/
theorem keys_upd {old new : Nat → Content} {its its' : List Nat} {a : Nat} {c : Content}
    (hnew : ∀ x, new x = if x = a then c else old x)
    (hk : ∀ x ∈ its, ∀ y ∈ its, ∀ k, key (old x) = some k → key (old y) = some k → x = y)
    (hsub : ∀ x ∈ its', x ≠ a → x ∈ its)
    (hfresh : a ∈ its' → ∀ y ∈ its, y ≠ a → ∀ k, key c = some k → key (old y) ≠ some k) :
    ∀ x ∈ its', ∀ y ∈ its', ∀ k, key (new x) = some k → key (new y) = some k → x = y := by
  intro x hx y hy k hkx hky
  rw [hnew] at hkx hky
  by_cases hxa : x = a <;> by_cases hya : y = a
  · rw [hxa, hya]
  · rw [if_pos hxa] at hkx; rw [if_neg hya] at hky
    exact absurd hky (hfresh (hxa ▸ hx) y (hsub y hy hya) hya k hkx)
  · rw [if_pos hya] at hky; rw [if_neg hxa] at hkx
    exact absurd hkx (hfresh (hya ▸ hy) x (hsub x hx hxa) hxa k hky)
  · rw [if_neg hxa] at hkx; rw [if_neg hya] at hky
    exact hk x (hsub x hx hxa) y (hsub y hy hya) k hkx hky

/-- appending a node, which becomes an item (`item = true`: an attribute or block) or not (a newline) -/
theorem inv_append {s : St} {cs : List Nat} (h : Inv s cs) (c : Content) (item : Bool)
    (hkey : item = true → ∀ k, key c = some k → ∀ b ∈ s.items, key (s.node b).content ≠ some k) :
    Inv { (appendNode s c).1 with items := bif item then s.next :: s.items else s.items } (cs ++ [s.next]) ∧
    absOf { (appendNode s c).1 with items := bif item then s.next :: s.items else s.items } (cs ++ [s.next]) =
      absOf s cs ++ bif item then (item? c).toList else [] := by
  have hc := appendNode_content h.rep c
  have hnotin : s.next ∉ s.items := fun hm => inv_lt h hm rfl
  have hmem : ∀ x, x ∈ (bif item then s.next :: s.items else s.items) ↔ (item = true ∧ x = s.next) ∨ x ∈ s.items := by
    cases item <;> simp
  refine ⟨⟨rep_items (rep_append h.rep c) _, ?_, ?_, ?_⟩, ?_⟩
  · intro a ha
    rcases (hmem a).mp ha with ⟨_, ha⟩ | ha
    · simp [ha]
    · simp [h.sub a ha]
  · cases item
    · exact h.inodup
    · exact List.nodup_cons.mpr ⟨hnotin, h.inodup⟩
  · refine keys_upd hc h.keys (fun x hx hne => ((hmem x).mp hx).resolve_left fun e => hne e.2) ?_
    intro hn y hy _ k hk
    exact hkey (((hmem _).mp hn).resolve_right hnotin).1 k hk y hy
  · unfold absOf
    rw [List.filterMap_append]
    congr 1
    · apply filterMap_congr'
      intro x hx
      have hne : x ≠ s.next := fun e => by have := (h.rep.att x hx).2; omega
      simp only [view, hmem, hne, and_false, false_or]
      rw [hc, if_neg hne]
    · cases item
      · simp [view, hnotin]
      · simp only [List.filterMap_cons, List.filterMap_nil, view, cond_true, List.mem_cons, true_or, if_true]
        rw [hc, if_pos rfl]
        cases item? c <;> rfl

/-- the outcome of searching the items for one with key `k` (`findAttr`, `findBlock`) -/
def Finds (s : St) (k : String ⊕ Nat) : Option Nat → Prop
  | some a => a ∈ s.items ∧ key (s.node a).content = some k
  | none => ∀ b ∈ s.items, key (s.node b).content ≠ some k

theorem finds_find? {s : St} {k : String ⊕ Nat} {q : Nat → Bool}
    (hq : ∀ a, q a = true ↔ key (s.node a).content = some k) : Finds s k (s.items.find? q) := by
  cases hf : s.items.find? q with
  | some a => exact ⟨List.mem_of_find?_eq_some hf, (hq a).mp (List.find?_some hf)⟩
  | none => exact fun b hb hk => List.find?_eq_none.mp hf b hb ((hq b).mpr hk)

theorem findAttr_finds (s : St) (name : String) : Finds s (.inl name) (findAttr s name) :=
  finds_find? fun a => by unfold isAttrNamed; cases (s.node a).content <;> simp [key]

theorem findBlock_finds (s : St) (id : Nat) : Finds s (.inr id) (findBlock s id) :=
  finds_find? fun a => by cases (s.node a).content <;> simp [key]

/-- Removing by key: `p` is a filter of the simple model that drops exactly the items whose key is `k`.
    Detaching an item `a` with that key and dropping it from the item set is that filter ... -/
theorem inv_remove {s : St} {cs : List Nat} (h : Inv s cs) {a : Nat} (ha : a ∈ s.items)
    {k : String ⊕ Nat} (hka : key (s.node a).content = some k) (p : Item → Bool)
    (hp : ∀ c it, item? c = some it → (p it = false ↔ key c = some k)) :
    Inv { detach s a with items := (detach s a).items.filter (fun x => decide (x ≠ a)) }
        (cs.filter (fun x => decide (x ≠ a))) ∧
    absOf { detach s a with items := (detach s a).items.filter (fun x => decide (x ≠ a)) }
        (cs.filter (fun x => decide (x ≠ a))) = (absOf s cs).filter p := by
  have hitems : ∀ x, x ∈ (detach s a).items.filter (fun x => decide (x ≠ a)) ↔ x ∈ s.items ∧ x ≠ a := by
    intro x; rw [detach_items]; simp
  refine ⟨⟨rep_items (rep_detach h.rep (h.sub a ha)) _, ?_, ?_, ?_⟩, ?_⟩
  · intro x hx
    have := (hitems x).mp hx
    simp [h.sub x this.1, this.2]
  · show ((detach s a).items.filter _).Nodup
    rw [detach_items]
    exact h.inodup.sublist List.filter_sublist
  · intro x hx y hy k hkx hky
    change key ((detach s a).node x).content = _ at hkx
    change key ((detach s a).node y).content = _ at hky
    rw [detach_content] at hkx hky
    exact h.keys x ((hitems x).mp hx).1 y ((hitems y).mp hy).1 k hkx hky
  · unfold absOf
    rw [List.filterMap_filter, List.filter_filterMap]
    apply filterMap_congr'
    intro x _
    by_cases hxa : x = a
    · subst hxa
      simp only [ne_eq, not_true_eq_false, decide_false, Bool.false_eq_true, if_false, view, ha, if_true]
      cases hi : item? (s.node x).content with
      | none => rfl
      | some it => simp [Option.filter, (hp _ it hi).mpr hka]
    · have hmem : (x ∈ (detach s a).items.filter (fun x => decide (x ≠ a))) ↔ x ∈ s.items := by
        rw [hitems]; simp [hxa]
      simp only [ne_eq, hxa, not_false_eq_true, decide_true, if_true, view, hmem, detach_content]
      split
      · rename_i hx
        cases hi : item? (s.node x).content with
        | none => rfl
        | some it =>
          -- another item with key `k` would be `a`
          have : ¬ p it = false := fun e => hxa (h.keys x hx a ha k ((hp _ it hi).mp e) hka)
          simp [Option.filter, this]
      · rfl

/-- ... and if no item has that key, the filter drops nothing: `removeAttr`, `removeBlock` -/
theorem remove_sim {s : St} {cs : List Nat} (h : Inv s cs) {k : String ⊕ Nat} (p : Item → Bool)
    (hp : ∀ c it, item? c = some it → (p it = false ↔ key c = some k)) :
    (f : Option Nat) → Finds s k f →
    ∃ cs', Inv (match f with
        | some a => { detach s a with items := (detach s a).items.filter (fun x => decide (x ≠ a)) }
        | none => s) cs' ∧
      absOf (match f with
        | some a => { detach s a with items := (detach s a).items.filter (fun x => decide (x ≠ a)) }
        | none => s) cs' = (absOf s cs).filter p
  | some _, ⟨ha, hka⟩ => ⟨_, inv_remove h ha hka p hp⟩
  | none, hnone => by
    refine ⟨cs, h, (List.filter_eq_self.mpr fun it hit => ?_).symm⟩
    obtain ⟨b, _, hb, hi⟩ := mem_absOf.mp hit
    have : ¬ p it = false := fun e => hnone b hb ((hp _ it hi).mp e)
    simpa using this

/-- rewrite the attributes named `name`, leave every other item -/
def updI (name : String) (f : String → Nat → Item) : Item → Item
  | .attr n e => if n == name then f n e else .attr n e
  | b => b

/-- updating the content of an attribute item (same name, or a name no item has) -/
theorem inv_setContent {s : St} {cs : List Nat} (h : Inv s cs) {a : Nat} (ha : a ∈ s.items)
    {n : String} {e : Nat} (hca : (s.node a).content = .attr n e) (n' : String) (e' : Nat)
    (hn' : n' = n ∨ ∀ b ∈ s.items, key (s.node b).content ≠ some (.inl n'))
    (f : String → Nat → Item) (hf : f n e = .attr n' e') :
    Inv (setContent s a (.attr n' e')) cs ∧
    absOf (setContent s a (.attr n' e')) cs = (absOf s cs).map (updI n f) := by
  have hc := setContent_content s a (.attr n' e')
  refine ⟨⟨rep_setContent h.rep a _, h.sub, h.inodup, keys_upd hc h.keys (fun _ hx _ => hx) ?_⟩, ?_⟩
  · -- another item with the key of the new content would be `a`
    intro _ y hy hya k hk hky
    cases hk
    rcases hn' with rfl | hn'
    · exact hya (h.keys y hy a ha _ hky (key_inl.mpr ⟨e, hca⟩))
    · exact hn' y hy hky
  · unfold absOf
    rw [List.map_filterMap]
    apply filterMap_congr'
    intro x _
    have hit : (setContent s a (.attr n' e')).items = s.items := rfl
    unfold view
    rw [hit, hc]
    by_cases hxa : x = a
    · subst hxa
      simp [ha, hca, item?, updI, hf]
    · rw [if_neg hxa]
      split
      · rename_i hx
        cases hi : item? (s.node x).content with
        | none => rfl
        | some it =>
          cases it with
          | block t l i => rfl
          | attr n2 e2 =>
            -- another attribute named `n` would be `a`
            have : n2 ≠ n := fun en => hxa (h.names x hx a ha n e2 e (en ▸ item?_attr.mp hi) hca)
            simp [updI, this]
      · rfl

/-- `namedI`, `notNamedI`, `notIdI`, `updI`: the functions `specStep` searches, filters and maps with, under names -/
def namedI (name : String) : Item → Bool
  | .attr n _ => n == name
  | _ => false

def notNamedI (name : String) : Item → Bool
  | .attr n _ => n != name
  | _ => true

def notIdI (id : Nat) : Item → Bool
  | .block _ _ i' => i' != id
  | _ => true

theorem specStep_setAttr (l : List Item) (name : String) (expr : Nat) :
    specStep l (.setAttr name expr) =
      if l.any (namedI name) then l.map (updI name fun n _ => .attr n expr) else l ++ [.attr name expr] := rfl

theorem specStep_removeAttr (l : List Item) (name : String) :
    specStep l (.removeAttr name) = l.filter (notNamedI name) := rfl

theorem specStep_renameAttr (l : List Item) (src dst : String) :
    specStep l (.renameAttr src dst) =
      if l.any (namedI src) && !l.any (namedI dst) then l.map (updI src fun _ e => .attr dst e) else l := rfl

theorem specStep_removeBlock (l : List Item) (id : Nat) :
    specStep l (.removeBlock id) = l.filter (notIdI id) := rfl

/-- the simple model has an attribute of that name iff the search of the items finds one -/
theorem any_named {s : St} {cs : List Nat} (h : Inv s cs) {name : String} :
    {f : Option Nat} → Finds s (.inl name) f → (absOf s cs).any (namedI name) = f.isSome
  | some a, ⟨ha, hka⟩ => by
    obtain ⟨e, hc⟩ := key_inl.mp hka
    exact List.any_eq_true.mpr
      ⟨.attr name e, mem_absOf.mpr ⟨a, h.sub a ha, ha, item?_attr.mpr hc⟩, by simp [namedI]⟩
  | none, hnone => by
    rw [Option.isSome_none, Bool.eq_false_iff]
    intro ht
    obtain ⟨it, hit, hn⟩ := List.any_eq_true.mp ht
    obtain ⟨b, _, hb, hi⟩ := mem_absOf.mp hit
    cases it with
    | attr n e =>
      have : n = name := by simpa [namedI] using hn
      exact hnone b hb (key_inl.mpr ⟨e, this ▸ item?_attr.mp hi⟩)
    | block t l i => simp [namedI] at hn

/-- what `freshIds` asks of the first operation -/
def freshFor (l : List Item) : Op → Prop
  | .appendBlock _ _ id => ∀ i ∈ l, match i with | .block _ _ i' => i' ≠ id | _ => True
  | _ => True

theorem step_sim {s : St} {cs : List Nat} (h : Inv s cs) (op : Op) (hf : freshFor (absOf s cs) op) :
    ∃ cs', Inv (step s op) cs' ∧ absOf (step s op) cs' = specStep (absOf s cs) op := by
  cases op with
  | setAttr name expr =>
    have hfa := findAttr_finds s name
    rw [specStep_setAttr, any_named h hfa]
    simp only [step]
    generalize findAttr s name = f at hfa
    cases f with
    | some a =>
      obtain ⟨e, hc⟩ := key_inl.mp hfa.2
      exact ⟨cs, inv_setContent h hfa.1 hc name expr (.inl rfl) _ rfl⟩
    | none =>
      refine ⟨cs ++ [s.next], inv_append h (.attr name expr) true fun _ k hk => ?_⟩
      cases hk
      exact hfa
  | removeAttr name =>
    rw [specStep_removeAttr]
    refine remove_sim h (notNamedI name) (fun c it hi => ?_) _ (findAttr_finds s name)
    cases c <;> cases hi <;> simp [notNamedI, key]
  | renameAttr src dst =>
    have hfs := findAttr_finds s src
    have hfd := findAttr_finds s dst
    rw [specStep_renameAttr, any_named h hfs, any_named h hfd]
    simp only [step]
    generalize findAttr s src = f at hfs
    generalize findAttr s dst = g at hfd
    cases f with
    | none => exact ⟨cs, h, rfl⟩
    | some a =>
      cases g with
      | some b => exact ⟨cs, h, rfl⟩
      | none =>
        obtain ⟨e, hc⟩ := key_inl.mp hfs.2
        simp only [hc]
        exact ⟨cs, inv_setContent h hfs.1 hc dst e (.inr hfd) _ rfl⟩
  | appendBlock type labels id =>
    refine ⟨cs ++ [s.next], inv_append h (.block type labels id) true fun _ k hk b hb hkb => ?_⟩
    cases hk
    obtain ⟨t', l', hcb⟩ := key_inr.mp hkb
    exact hf (.block t' l' id) (mem_absOf.mpr ⟨b, h.sub b hb, hb, item?_block.mpr hcb⟩) rfl
  | removeBlock id =>
    rw [specStep_removeBlock]
    refine remove_sim h (notIdI id) (fun c it hi => ?_) _ (findBlock_finds s id)
    cases c <;> cases hi <;> simp [notIdI, key]
  | appendNewline =>
    have := inv_append h (.tokens 10) false (fun e => by cases e)
    simp only [cond_false, List.append_nil] at this
    exact ⟨cs ++ [s.next], this⟩

theorem freshIds_cons {l : List Item} {op : Op} {rest : List Op} (h : freshIds l (op :: rest)) :
    freshFor l op ∧ freshIds (specStep l op) rest := by
  cases op <;> simp only [freshIds, freshFor] at h ⊢ <;> first | exact h | exact ⟨trivial, h⟩

theorem run_sim (ops : List Op) : ∀ {s : St} {cs : List Nat}, Inv s cs → freshIds (absOf s cs) ops →
    ∃ cs', Inv (runOps s ops) cs' ∧ absOf (runOps s ops) cs' = specRun (absOf s cs) ops := by
  induction ops with
  | nil => intro s cs h _; exact ⟨cs, h, rfl⟩
  | cons op rest ih =>
    intro s cs h hf
    obtain ⟨hf1, hf2⟩ := freshIds_cons hf
    obtain ⟨cs1, h1, e1⟩ := step_sim h op hf1
    rw [← e1] at hf2
    obtain ⟨cs2, h2, e2⟩ := ih h1 hf2
    refine ⟨cs2, h2, ?_⟩
    rw [e1] at e2
    exact e2

theorem Rep.link_idx {s : St} {cs : List Nat} (h : Rep s cs) (i a : Nat) (hi : cs[i]? = some a) :
    (s.node a).before = (if i = 0 then none else cs[i - 1]?) ∧ (s.node a).after = cs[i + 1]? := by
  obtain ⟨hlt, hget⟩ := List.getElem?_eq_some_iff.mp hi
  have hsplit : cs = cs.take i ++ a :: cs.drop (i + 1) := by
    rw [← hget, ← List.drop_eq_getElem_cons hlt, List.take_append_drop]
  rw [(h.link _ a _ hsplit).1, (h.link _ a _ hsplit).2, List.head?_drop, List.getLast?_take]
  refine ⟨?_, rfl⟩
  split
  · rfl
  · rw [List.getElem?_eq_getElem (by omega), Option.some_or]

theorem wf_of_inv {s : St} {cs : List Nat} (h : Inv s cs) : WellFormed s := by
  unfold WellFormed
  rw [children_eq h.rep]
  exact ⟨h.rep.nodup, h.rep.first, h.rep.last, h.rep.att, fun a _ => h.rep.unatt a, h.rep.link_idx,
    h.sub, h.inodup, h.names⟩

theorem specGet_some {l : List Item} {name : String} {e : Nat}
    (hu : ∀ e', Item.attr name e' ∈ l → e' = e) (hm : Item.attr name e ∈ l) :
    specGetAttribute l name = some e := by
  unfold specGetAttribute
  cases hr : l.findSome? _ with
  | none => simpa using List.findSome?_eq_none_iff.mp hr _ hm
  | some e' =>
    -- whatever the search returns stands in `l` under that name
    obtain ⟨it, hit, hf⟩ := List.exists_of_findSome?_eq_some hr
    cases it with
    | block t ls i => cases hf
    | attr n e2 =>
      dsimp only at hf
      split at hf
      · rename_i hn
        cases hf
        cases eq_of_beq hn
        rw [hu e' hit]
      · cases hf

theorem get_sim {s : St} {cs : List Nat} (h : Inv s cs) (name : String) :
    getAttribute s name = specGetAttribute (absOf s cs) name := by
  have hfa := findAttr_finds s name
  unfold getAttribute
  generalize findAttr s name = f at hfa
  cases f with
  | some a =>
    obtain ⟨ha, hka⟩ := hfa
    obtain ⟨e, hc⟩ := key_inl.mp hka
    simp only [hc]
    symm
    apply specGet_some
    · intro e' hm
      obtain ⟨b, _, hb, hi⟩ := mem_absOf.mp hm
      have := h.names b hb a ha name e' e (item?_attr.mp hi) hc
      subst this
      rw [hc] at hi
      cases hi
      rfl
    · exact mem_absOf.mpr ⟨a, h.sub a ha, ha, item?_attr.mpr hc⟩
  | none =>
    symm
    unfold specGetAttribute
    rw [List.findSome?_eq_none_iff]
    intro it hit
    obtain ⟨b, _, hb, hi⟩ := mem_absOf.mp hit
    cases it with
    | block t l i => rfl
    | attr n e =>
      have : n ≠ name := fun en => hfa b hb (key_inl.mpr ⟨e, en ▸ item?_attr.mp hi⟩)
      simp [this]

theorem absOf_init : absOf St.init [] = [] := rfl

theorem reachable_wellformed (ops : List Op) (h : freshIds [] ops) : WellFormed (runOps St.init ops) := by
  obtain ⟨cs, hi, _⟩ := run_sim ops inv_init (absOf_init ▸ h)
  exact wf_of_inv hi

theorem refines (ops : List Op) (h : freshIds [] ops) : abs (runOps St.init ops) = specRun [] ops := by
  obtain ⟨cs, hi, e⟩ := run_sim ops inv_init (absOf_init ▸ h)
  rw [abs_eq hi.rep, e, absOf_init]

theorem accessor_agrees (ops : List Op) (h : freshIds [] ops) (name : String) :
    getAttribute (runOps St.init ops) name = specGetAttribute (specRun [] ops) name := by
  obtain ⟨cs, hi, e⟩ := run_sim ops inv_init (absOf_init ▸ h)
  rw [get_sim hi name, e, absOf_init]

theorem untouched (l : List Item) (name other : String) (e e' : Nat) (hne : other ≠ name)
    (h : Item.attr name e ∈ l) :
    Item.attr name e ∈ specStep l (.setAttr other e') ∧ Item.attr name e ∈ specStep l (.removeAttr other) := by
  have hno : (name == other) = false := by simpa using Ne.symm hne
  constructor
  · rw [specStep_setAttr]
    split
    · rw [List.mem_map]
      exact ⟨.attr name e, h, by simp [updI, hno]⟩
    · simp [h]
  · rw [specStep_removeAttr, List.mem_filter]
    exact ⟨h, by simp [notNamedI, Ne.symm hne]⟩

end HclModel.Nodes.Proofs
