import Proofs.UnknownsLoops
/-!
`conc` between a concrete and an abstract run of object constructors, templates, `tjoin` and function calls, in
the manner of `UnknownsLoops`: both runs are read off the lemma of `Proofs.EvalStepLemmas` that says what a loop
body or stage without diagnostics did, and compared.
-/
namespace HclModel.Proofs.Unk
open Val

section
variable (F : Funcs)

theorem conc_items_step (ρc ρa : Env) (ke ve : Expr) (rest : List (Expr × Expr))
    (ihk : RelOut (eval (strictCx F) ρc ke) (eval (strictCx F) ρa ke))
    (ihv : RelOut (eval (strictCx F) ρc ve) (eval (strictCx F) ρa ve))
    (ihr : (evalItems (strictCx F) ρc rest).1.diags = [] → (evalItems (strictCx F) ρa rest).1.diags = [] →
      (evalItems (strictCx F) ρa rest).2 = true →
        (evalItems (strictCx F) ρc rest).2 = true ∧
          All2 GRel (evalItems (strictCx F) ρc rest).1.kvs (evalItems (strictCx F) ρa rest).1.kvs)
    (hc : (evalItems (strictCx F) ρc ((ke, ve) :: rest)).1.diags = [])
    (ha : (evalItems (strictCx F) ρa ((ke, ve) :: rest)).1.diags = [])
    (hk : (evalItems (strictCx F) ρa ((ke, ve) :: rest)).2 = true) :
    (evalItems (strictCx F) ρc ((ke, ve) :: rest)).2 = true ∧
      All2 GRel (evalItems (strictCx F) ρc ((ke, ve) :: rest)).1.kvs
        (evalItems (strictCx F) ρa ((ke, ve) :: rest)).1.kvs := by
  rw [evalItems_cons] at hc ha hk ⊢
  rw [evalItems_cons]
  obtain ⟨kdc, vdc, rdc, altc⟩ := itemStep_clean hc
  obtain ⟨kda, vda, rda, alta⟩ := itemStep_clean ha
  have hcc := ihk kdc kda
  rcases alta with ⟨-, ea⟩ | ⟨hka, s, hba, ea⟩
  · rw [ea] at hk; cases hk
  rw [ea] at hk ⊢
  obtain ⟨r1, r2⟩ := ihr rdc rda hk
  rcases altc with ⟨hu, -⟩ | ⟨-, s', hbc, ec⟩
  · rw [conc_isKnown hcc hka] at hu; cases hu
  -- the concrete key converts to the same string
  cases tryConvert_str_conc (by simpa using hcc) hbc hba
  rw [ec]
  refine ⟨r1, ?_⟩
  dsimp only
  rw [concG_lookup (k := s) r2]
  split
  · exact r2
  · exact concG_groupInsert (ihv vdc vda) r2
end

/-- the invariant of the template loop: while the abstract run is known so is the concrete one, with the same text -/
def RTm (stc sta : TSt) : Prop :=
  sta.2.1 = true → stc.2.1 = true ∧ stc.2.2.2 = sta.2.2.2

theorem conc_tmplStep (stc sta : TSt) (oc oa : Out) (hrel : RelOut oc oa)
    (hr : RTm stc sta) (hdc : (tmplStep stc oc).1 = []) (hda : (tmplStep sta oa).1 = []) :
    RTm (tmplStep stc oc) (tmplStep sta oa) := by
  intro hka
  obtain ⟨-, hoc, -, altc⟩ := tmplStep_clean hdc
  obtain ⟨-, hoa, -, alta⟩ := tmplStep_clean hda
  have hcc := hrel hoc hoa
  rcases alta with ⟨-, ea⟩ | ⟨hkna, s, hba, ea⟩
  · rw [ea] at hka; cases hka
  rw [ea] at hka ⊢
  obtain ⟨kc, hbuf⟩ := hr hka
  rcases altc with ⟨h1, -⟩ | ⟨-, s', hbc, ec⟩
  · rw [conc_isKnown hcc hkna] at h1; cases h1
  cases tryConvert_str_conc (by simpa using hcc) hbc hba
  rw [ec]
  exact ⟨kc, by simp only [kc, show sta.2.1 = true from hka, hbuf]⟩

section
variable (F : Funcs)

theorem conc_template (ρc ρa : Env) (parts : List Expr)
    (ih : All2 RelOut (evalEach (strictCx F) ρc parts) (evalEach (strictCx F) ρa parts))
    (hc : (eval (strictCx F) ρc (.template parts)).2 = [])
    (ha : (eval (strictCx F) ρa (.template parts)).2 = []) :
    conc (eval (strictCx F) ρc (.template parts)).1 (eval (strictCx F) ρa (.template parts)).1 = true := by
  have hty := (template_type (strictCx F) ρc parts).1
  rw [eval_template, tmplOut_eq] at hc ha hty ⊢
  rw [eval_template, tmplOut_eq]
  have hdc : ((evalEach (strictCx F) ρc parts).foldl tmplStep (([] : List Diag), true, Fl.none, "")).1 = [] := by
    split at hc <;> exact hc
  have hda : ((evalEach (strictCx F) ρa parts).foldl tmplStep (([] : List Diag), true, Fl.none, "")).1 = [] := by
    split at ha <;> exact ha
  have hR := foldl_rel (·.1) tmplStep tmplStep (fun _ _ h => (tmplStep_clean h).1) (fun _ _ h => (tmplStep_clean h).1)
    RTm RelOut _ _ ih (fun sc sa x y _ => conc_tmplStep sc sa x y) _ _ (fun _ => ⟨rfl, rfl⟩) hdc hda
  generalize (evalEach (strictCx F) ρc parts).foldl tmplStep (([] : List Diag), true, Fl.none, "") = stc at *
  generalize (evalEach (strictCx F) ρa parts).foldl tmplStep (([] : List Diag), true, Fl.none, "") = sta at *
  cases hka : sta.2.1
  · simp only [Bool.false_eq_true, if_false]
    exact conc_of_type hty
  · obtain ⟨kc, hb⟩ := hR hka
    simp only [kc, if_true, conc, hb, beq_self_eq_true]
end

theorem tjoinLoop_conc (tmc tma : Fl) : ∀ (xsa xsc : List Val) (dsc dsa : List Diag) (msc msa : Fl) (buf : String),
    concL xsc xsa = true → (tjoinLoop tmc xsc dsc msc buf).2 = [] → (tjoinLoop tma xsa dsa msa buf).2 = [] →
      conc (tjoinLoop tmc xsc dsc msc buf).1 (tjoinLoop tma xsa dsa msa buf).1 = true
  | [], [], _, _, _, _, _, _, _, _ => by simp [tjoinLoop, conc]
  | [], _ :: _, _, _, _, _, _, h, _, _ => by simp [concL] at h
  | _ :: _, [], _, _, _, _, _, h, _, _ => by simp [concL] at h
  | xa :: xsa, xc :: xsc, dsc, dsa, msc, msa, buf, h, hc, ha => by
    simp only [concL, Bool.and_eq_true] at h
    obtain ⟨-, ⟨-, e⟩ | ⟨-, hka, s, hba, ea⟩⟩ := tjoinLoop_cons_clean ha
    · rw [e]; exact conc_of_type (tjoinLoop_type tmc (xc :: xsc) dsc msc buf).1
    · obtain ⟨hnc, ⟨h1, -⟩ | ⟨-, -, s', hbc, ec⟩⟩ := tjoinLoop_cons_clean hc
      · exact absurd h1 (not_unk_of_known (conc_isKnown h.1 hka) hnc)
      · cases tryConvert_str_conc h.1 hbc hba
        rw [ec] at hc ⊢; rw [ea] at ha ⊢
        exact tjoinLoop_conc tmc tma xsa xsc dsc dsa _ _ _ h.2 hc ha

section
variable (F : Funcs)

theorem conc_tjoin (ρc ρa : Env) (t : Expr)
    (ih : RelOut (eval (strictCx F) ρc t) (eval (strictCx F) ρa t))
    (hc : (eval (strictCx F) ρc (.tjoin t)).2 = [])
    (ha : (eval (strictCx F) ρa (.tjoin t)).2 = []) :
    conc (eval (strictCx F) ρc (.tjoin t)).1 (eval (strictCx F) ρa (.tjoin t)).1 = true := by
  have hty := (tjoin_type (strictCx F) ρc t hc).1
  rw [eval_tjoin] at hc ha hty ⊢
  rw [eval_tjoin]
  rcases tjoinOut_clean ha with ⟨-, e⟩ | ⟨-, hka, fa, xsa, htva, ea⟩
  · rw [e]; exact conc_of_type hty
  · -- the concrete operand is a known tuple below the abstract one
    have hcc := ih (tjoinOut_nil hc) (tjoinOut_nil ha)
    have hcu : conc (eval (strictCx F) ρc t).1.unmark.1 (eval (strictCx F) ρa t).1.unmark.1 = true := by
      simpa using hcc
    rw [htva] at hcu
    obtain ⟨f, xsc, htvc, hl⟩ := conc_tuple_inv hcu
    rcases tjoinOut_clean hc with ⟨h1 | h1, -⟩ | ⟨-, -, fc, xsc', htvc', ec⟩
    · have : (eval (strictCx F) ρc t).1.unmark.1.typeOf = .tuple (typeOfList xsc) := by rw [htvc]; rfl
      simp only [unmark_fst, typeOf_setFl] at this
      rw [this] at h1; cases h1
    · rw [conc_isKnown hcc hka] at h1; cases h1
    · rw [htvc] at htvc'; cases htvc'
      rw [ec] at hc ⊢
      rw [ea] at ha ⊢
      exact tjoinLoop_conc _ _ xsa _ _ _ _ _ _ hl hc ha
end

theorem convertArgs_conc (spec : FuncSpec) (hv : ∀ t, spec.varParam = some t → t.paramOk = true) :
    ∀ (vsa vsc : List Val) (ps : List Ty), (∀ t ∈ ps, t.paramOk = true) → concL vsc vsa = true →
      (convertArgs spec vsc ps).2 = [] → (convertArgs spec vsa ps).2 = [] →
      concL (convertArgs spec vsc ps).1 (convertArgs spec vsa ps).1 = true
  | [], [], _, _, _, _, _ => by simp [convertArgs, concL]
  | [], _ :: _, _, _, h, _, _ => by simp [concL] at h
  | _ :: _, [], _, _, h, _, _ => by simp [concL] at h
  | va :: vsa, vc :: vsc, ps, hp, h, hc, ha => by
    simp only [concL, Bool.and_eq_true] at h
    rw [convertArgs_cons] at hc ha ⊢
    rw [convertArgs_cons]
    have ih := convertArgs_conc spec hv vsa vsc (nextParam spec ps).2 (nextParam_ok spec ps hp hv).2 h.2
    have hat := (nextParam_ok spec ps hp hv).1
    cases hpt : (nextParam spec ps).1 with
    | none =>
      simp only [hpt] at hc ha ⊢
      simp only [concL, Bool.and_eq_true]
      exact ⟨h.1, ih hc ha⟩
    | some t =>
      simp only [hpt] at hc ha ⊢
      rcases tryConvert_cases vc t with ⟨vc', hbc, hbc'⟩ | ⟨d, hbc⟩
      · rcases tryConvert_cases va t with ⟨va', hba, hba'⟩ | ⟨d, hba⟩
        · rw [hbc] at hc ⊢; rw [hba] at ha ⊢
          simp only at hc ha ⊢
          simp only [concL, Bool.and_eq_true]
          exact ⟨convert_mono h.1 (hat t hpt) hbc' hba', ih hc ha⟩
        · rw [hba] at ha; simp at ha
      · rw [hbc] at hc; simp at hc

theorem concL_any {p q : Val → Bool} (hpq : ∀ v a, conc v a = true → p v = true → q a = true) :
    ∀ {xs ys : List Val}, concL xs ys = true → xs.any p = true → ys.any q = true
  | [], [], _, h => by simp at h
  | [], _ :: _, h, _ => by simp [concL] at h
  | _ :: _, [], h, _ => by simp [concL] at h
  | x :: xs, y :: ys, h, ha => by
    simp only [concL, Bool.and_eq_true] at h
    simp only [List.any_cons, Bool.or_eq_true] at ha ⊢
    rcases ha with ha | ha
    · exact Or.inl (hpq x y h.1 ha)
    · exact Or.inr (concL_any hpq h.2 ha)

theorem concL_any' {p q : Val → Bool} (hpq : ∀ v a, conc v a = true → q a = true → p v = true) :
    ∀ {xs ys : List Val}, concL xs ys = true → ys.any q = true → xs.any p = true
  | [], [], _, h => by simp at h
  | [], _ :: _, h, _ => by simp [concL] at h
  | _ :: _, [], h, _ => by simp [concL] at h
  | x :: xs, y :: ys, h, ha => by
    simp only [concL, Bool.and_eq_true] at h
    simp only [List.any_cons, Bool.or_eq_true] at ha ⊢
    rcases ha with ha | ha
    · exact Or.inl (hpq x y h.1 ha)
    · exact Or.inr (concL_any' hpq h.2 ha)

theorem concL_map_unmarkDeep {xs ys : List Val} (h : concL xs ys = true) :
    concL (xs.map Val.unmarkDeep) (ys.map Val.unmarkDeep) = true := by
  rw [← unmarkDeepList_eq_map, ← unmarkDeepList_eq_map, concL_unmarkDeep]; exact h

theorem callFunc_conc {F : Funcs} (hS : SoundFuncsS F) {fn : String} {spec : FuncSpec} (hf : F fn = some spec)
    {valsc valsa : List Val} {rc ra : Val} (hl : concL valsc valsa = true)
    (hc : callFunc spec valsc = .ok rc) (ha : callFunc spec valsa = .ok ra) : conc rc ra = true := by
  obtain ⟨-, rc', rfl, hrc⟩ := callFunc_ok hc
  obtain ⟨-, ra', rfl, hra⟩ := callFunc_ok ha
  rw [conc_withFl]
  have hargs := concL_map_unmarkDeep hl
  split at hra
  · rw [hra]; simp [conc_unk]
  · rename_i hdyna
    have hdync : ¬ (valsc.any fun a => a.typeOf == Ty.dyn) = true := fun hh =>
      hdyna (concL_any (p := fun a => a.typeOf == Ty.dyn) (q := fun a => a.typeOf == Ty.dyn)
        (fun v a hva hv => by simp only [beq_iff_eq] at hv ⊢; exact conc_dyn hva hv) hl hh)
    rw [if_neg hdync] at hrc
    split at hra
    · -- some abstract argument is unknown
      rw [hra, conc_unk_iff]
      split at hrc
      · rw [hrc]; exact hS.retTy_mono fn spec hf _ _ hargs
      · exact hS.sound.retTy fn spec hf _ _ rc' hargs hrc
    · rename_i hunka
      have hunkc : ¬ (valsc.any fun a => !a.isKnown) = true := fun hh =>
        hunka (concL_any (p := fun a => !a.isKnown) (q := fun a => !a.isKnown) (fun v a hva hv => by
          cases hka : a.isKnown
          · rfl
          · simp [conc_isKnown hva hka] at hv) hl hh)
      rw [if_neg hunkc] at hrc
      have := hS.sound.mono fn spec hf _ _ hargs
      rw [hrc, hra] at this
      exact this

theorem splatItems_conc {vc va : Val} (h : conc vc va = true) (hk : va.isKnown = true) :
    concL (splatItems vc) (splatItems va) = true := by
  cases va <;> simp [isKnown] at hk
  case null => obtain ⟨f, rfl⟩ := conc_null_inv h; rfl
  case str => obtain ⟨f, rfl⟩ := conc_str_inv h; rfl
  case num => obtain ⟨f, rfl⟩ := conc_num_inv h; rfl
  case bool => obtain ⟨f, rfl⟩ := conc_bool_inv h; rfl
  case list => obtain ⟨f, xs, rfl, hl⟩ := conc_list_inv h; exact hl
  case map => obtain ⟨f, xs, rfl, hl⟩ := conc_map_inv h; rfl
  case tuple => obtain ⟨f, xs, rfl, hl⟩ := conc_tuple_inv h; exact hl
  case object => obtain ⟨f, xs, rfl, hl⟩ := conc_object_inv h; rfl

section
variable (F : Funcs)

theorem expandArg_conc (ρc ρa : Env) (expand : Option Expr)
    (ih : ∀ le, expand = some le → RelOut (eval (strictCx F) ρc le) (eval (strictCx F) ρa le))
    (extraa : List Val) (ha : expandArg (expand.map (eval (strictCx F) ρa)) = .ok (extraa, [])) :
    (∀ o, expandArg (expand.map (eval (strictCx F) ρc)) = .error o → o.2 ≠ []) ∧
    (∀ extrac, expandArg (expand.map (eval (strictCx F) ρc)) = .ok (extrac, []) → concL extrac extraa = true) := by
  cases expand with
  | none =>
    cases ha
    exact ⟨fun o h => (nomatch h), fun extrac h => by cases h; rfl⟩
  | some le =>
    simp only [Option.map_some] at ha ⊢
    rcases expandArg_some (eval (strictCx F) ρa le) with ⟨ds, e, -⟩ | ⟨e, hna, hka, -⟩ <;> rw [e] at ha
    · cases ha
    simp only [Except.ok.injEq, Prod.mk.injEq] at ha
    obtain ⟨rfl, hda⟩ := ha
    rcases expandArg_some (eval (strictCx F) ρc le) with ⟨ds, e, hds⟩ | ⟨e, -⟩ <;> rw [e]
    · -- a concrete failure without diagnostic would be an unknown below a known value
      refine ⟨fun o h he => ?_, fun _ h => nomatch h⟩
      cases h
      obtain ⟨hdc, hnc, hx⟩ := hds he
      have hkc := conc_isKnown (ih le rfl hdc hda) hka
      rcases hx with hx | hx
      · exact typeOf_ne_dyn hkc hnc (by simpa using hx)
      · rw [hkc] at hx; cases hx
    · refine ⟨fun o h => (nomatch h), fun extrac h => ?_⟩
      simp only [Except.ok.injEq, Prod.mk.injEq] at h
      rw [← h.1, expandElems_eq, expandElems_eq]
      exact concL_map_withFl _ _ (splatItems_conc (ih le rfl h.2 hda) hka)

theorem all2_outs_concL : ∀ {outsc outsa : List Out}, All2 RelOut outsc outsa →
    (∀ o ∈ outsc, o.2 = []) → (∀ o ∈ outsa, o.2 = []) → concL (outsc.map (·.1)) (outsa.map (·.1)) = true
  | [], [], _, _, _ => rfl
  | oc :: outsc, oa :: outsa, h, hc, ha => by
    cases h with
    | cons h1 h2 =>
      simp only [List.map_cons, concL, Bool.and_eq_true]
      exact ⟨h1 (hc oc (by simp)) (ha oa (by simp)),
        all2_outs_concL h2 (fun o ho => hc o (by simp [ho])) (fun o ho => ha o (by simp [ho]))⟩

theorem conc_call (hS : SoundFuncsS F) (ρc ρa : Env) (fn : String) (args : List Expr) (expand : Option Expr)
    (iha : All2 RelOut (evalEach (strictCx F) ρc args) (evalEach (strictCx F) ρa args))
    (ihe : ∀ le, expand = some le → RelOut (eval (strictCx F) ρc le) (eval (strictCx F) ρa le))
    (hc : (eval (strictCx F) ρc (.call fn args expand)).2 = [])
    (ha : (eval (strictCx F) ρa (.call fn args expand)).2 = []) :
    conc (eval (strictCx F) ρc (.call fn args expand)).1 (eval (strictCx F) ρa (.call fn args expand)).1 = true := by
  rw [eval_call] at hc ha ⊢
  rw [eval_call]
  simp only [strict_funcs] at hc ha ⊢
  cases hf : F fn with
  | none => simp [hf, errOut] at ha
  | some spec =>
    simp only [hf] at hc ha ⊢
    cases hcea : expandArg (expand.map (eval (strictCx F) ρa)) with
    | error o =>
      rw [callOut_error, (expandArg_error hcea).1]
      exact conc_dynVal _
    | ok pa =>
      obtain ⟨extraa, eda⟩ := pa
      rw [hcea] at ha
      obtain ⟨rfl, hfma, hcdsa, ra, hcfa, hba⟩ := callOut_clean ha
      obtain ⟨hx1, hx2⟩ := expandArg_conc F ρc ρa expand ihe extraa hcea
      cases hcec : expandArg (expand.map (eval (strictCx F) ρc)) with
      | error o => rw [hcec, callOut_error] at hc; exact absurd hc (hx1 o hcec)
      | ok pc =>
        obtain ⟨extrac, edc⟩ := pc
        rw [hcec] at hc
        obtain ⟨rfl, hfmc, hcdsc, rc, hcfc, hbc⟩ := callOut_clean hc
        rw [hbc, hba]
        have hp := hS.params_ok fn spec hf
        exact callFunc_conc hS hf (convertArgs_conc spec hp.2 _ _ spec.params hp.1
          (concL_append (all2_outs_concL iha hfmc hfma) (hx2 extrac hcec)) hcdsc hcdsa) hcfc hcfa
end

end HclModel.Proofs.Unk
