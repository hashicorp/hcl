import HclModel.Json.Body
import Proofs.BodyNative
import Proofs.JBodyLit
/-!
C03, structure of layouts: the blocks a layout writes, as one flat list (`flatBlocks`), of which the
configuration denoted (`denoteBlocks`) and the blocks `unpackBlock` finds in the rendered JSON value are both
images.
-/
namespace HclModel.JBody.Proofs
open HclModel HclModel.Body HclModel.Body.Proofs

/-- a block as written: type, labels, layout of the body -/
abbrev FBlock := String × List String × BodyL

mutual
def flatUnder (t : String) (labels : List String) : UnderL → List FBlock
  | .none => []
  | .one props => [(t, labels, .obj props)]
  | .many bodies => bodies.map fun b => (t, labels, b)
  | .labelsObj part => flatLabelProps t labels part
  | .labelsArr parts => flatLabelParts t labels parts
def flatLabelParts (t : String) (labels : List String) : List (List (String × UnderL)) → List FBlock
  | [] => []
  | p :: rest => flatLabelProps t labels p ++ flatLabelParts t labels rest
def flatLabelProps (t : String) (labels : List String) : List (String × UnderL) → List FBlock
  | [] => []
  | (k, u) :: rest => flatUnder t (labels ++ [k]) u ++ flatLabelProps t labels rest
end

/-- what one property writes: the JSON property, … -/
def renderProp : PropL → String × JV
  | .comment v => ("//", v)
  | .attr n v => (n, v)
  | .blocks t u => (t, renderUnder u)
/-- … the argument, … -/
def propAttrs : PropL → List (String × JV)
  | .attr n v => [(n, v)]
  | _ => []
/-- … the blocks -/
def propBlocks : PropL → List FBlock
  | .blocks t u => flatUnder t [] u
  | _ => []

def flatBlocks (ps : List PropL) : List FBlock := ps.flatMap propBlocks

/-- the properties of a body in reading order -/
def bodyProps : BodyL → List PropL
  | .obj props => props
  | .arr parts => parts.flatten

/-- the block `unpackBlock` makes -/
def toJ (fb : FBlock) : Block JBodyV := ⟨fb.1, fb.2.1, ⟨renderBody fb.2.2, []⟩⟩
/-- the block denoted -/
def toC (fb : FBlock) : CBlock := .mk fb.1 fb.2.1 (denoteBody fb.2.2)
/-- … as a block of the native body -/
def toN (fb : FBlock) : Block CBlock := ⟨fb.1, fb.2.1, toC fb⟩

mutual
theorem flatUnder_type : ∀ (t : String) (labels : List String) (u : UnderL) (fb : FBlock),
    fb ∈ flatUnder t labels u → fb.1 = t
  | t, labels, .none, fb, h => by simp [flatUnder] at h
  | t, labels, .one props, fb, h => by simp only [flatUnder, List.mem_singleton] at h; rw [h]
  | t, labels, .many bodies, fb, h => by
    simp only [flatUnder, List.mem_map] at h
    obtain ⟨b, _, rfl⟩ := h
    rfl
  | t, labels, .labelsObj part, fb, h => by
    simp only [flatUnder] at h; exact flatLabelProps_type t labels part fb h
  | t, labels, .labelsArr parts, fb, h => by
    simp only [flatUnder] at h; exact flatLabelParts_type t labels parts fb h
theorem flatLabelParts_type : ∀ (t : String) (labels : List String) (parts : List (List (String × UnderL)))
    (fb : FBlock), fb ∈ flatLabelParts t labels parts → fb.1 = t
  | t, labels, [], fb, h => by simp [flatLabelParts] at h
  | t, labels, p :: rest, fb, h => by
    simp only [flatLabelParts, List.mem_append] at h
    rcases h with h | h
    · exact flatLabelProps_type t labels p fb h
    · exact flatLabelParts_type t labels rest fb h
theorem flatLabelProps_type : ∀ (t : String) (labels : List String) (part : List (String × UnderL))
    (fb : FBlock), fb ∈ flatLabelProps t labels part → fb.1 = t
  | t, labels, [], fb, h => by simp [flatLabelProps] at h
  | t, labels, (k, u) :: rest, fb, h => by
    simp only [flatLabelProps, List.mem_append] at h
    rcases h with h | h
    · exact flatUnder_type t (labels ++ [k]) u fb h
    · exact flatLabelProps_type t labels rest fb h
end

theorem renderProps_map (ps : List PropL) : renderProps ps = ps.map renderProp := by
  induction ps with
  | nil => rfl
  | cons p rest ih => cases p <;> simp [renderProps, renderProp, ih]

theorem denoteAttrs_flatMap (ps : List PropL) : denoteAttrs ps = ps.flatMap propAttrs := by
  induction ps with
  | nil => rfl
  | cons p rest ih => cases p <;> simp [denoteAttrs, propAttrs, ih]

theorem renderProps_append (a b : List PropL) : renderProps (a ++ b) = renderProps a ++ renderProps b := by
  simp only [renderProps_map, List.map_append]

theorem denoteAttrs_append (a b : List PropL) : denoteAttrs (a ++ b) = denoteAttrs a ++ denoteAttrs b := by
  simp only [denoteAttrs_flatMap, List.flatMap_append]

theorem denoteBlocks_append (a b : List PropL) : denoteBlocks (a ++ b) = denoteBlocks a ++ denoteBlocks b := by
  induction a with
  | nil => simp [denoteBlocks]
  | cons p rest ih => cases p <;> simp [denoteBlocks, ih]

theorem admProps_append (st : STree) (a b : List PropL) :
    admProps st (a ++ b) = (admProps st a && admProps st b) := by
  induction a with
  | nil => simp [admProps]
  | cons p rest ih => cases p <;> simp only [List.cons_append, admProps, ih, Bool.and_assoc]

theorem denoteAttrsParts_eq (parts : List (List PropL)) : denoteAttrsParts parts = denoteAttrs parts.flatten := by
  induction parts with
  | nil => simp [denoteAttrsParts, denoteAttrs]
  | cons p rest ih => simp [denoteAttrsParts, denoteAttrs_append, ih]

theorem denoteBlocksParts_eq (parts : List (List PropL)) : denoteBlocksParts parts = denoteBlocks parts.flatten := by
  induction parts with
  | nil => simp [denoteBlocksParts, denoteBlocks]
  | cons p rest ih => simp [denoteBlocksParts, denoteBlocks_append, ih]

theorem admParts_eq (st : STree) (parts : List (List PropL)) : admParts st parts = admProps st parts.flatten := by
  induction parts with
  | nil => simp [admParts, admProps]
  | cons p rest ih => simp [admParts, admProps_append, ih]

theorem denoteBody_eq (L : BodyL) :
    denoteBody L = .mk (denoteAttrs (bodyProps L)) (denoteBlocks (bodyProps L)) := by
  cases L with
  | obj props => simp [denoteBody, bodyProps]
  | arr parts => simp [denoteBody, bodyProps, denoteAttrsParts_eq, denoteBlocksParts_eq]

theorem admBody_eq (st : STree) (L : BodyL) :
    admBody st L = (admProps st (bodyProps L) &&
      ((denoteAttrs (bodyProps L)).map (·.1)).eraseDups.length == (denoteAttrs (bodyProps L)).length) := by
  cases L with
  | obj props => simp [admBody, bodyProps]
  | arr parts => simp [admBody, bodyProps, denoteAttrsParts_eq, admParts_eq]

theorem collect_foldl (f : List (String × JV) × Bool → JV → List (String × JV) × Bool)
    (hf : ∀ acc props, f acc (.obj props) = (acc.1 ++ props, acc.2))
    (xs : List (List PropL)) (acc : List (String × JV) × Bool) :
    (renderParts xs).foldl f acc = (acc.1 ++ renderProps xs.flatten, acc.2) := by
  induction xs generalizing acc with
  | nil => simp [renderParts, renderProps]
  | cons p rest ih => simp [renderParts, ih, hf, renderProps_append]

theorem collect_renderBody (L : BodyL) :
    collectDeepAttrs (renderBody L) = (renderProps (bodyProps L), false) := by
  cases L with
  | obj props => simp [renderBody, collectDeepAttrs, bodyProps]
  | arr parts =>
    simp only [renderBody, collectDeepAttrs, bodyProps]
    rw [collect_foldl _ (fun _ _ => rfl)]
    simp

mutual
theorem denoteUnder_eq : ∀ (t : String) (labels : List String) (u : UnderL),
    denoteUnder t labels u = (flatUnder t labels u).map toC
  | t, labels, .none => by simp [denoteUnder, flatUnder]
  | t, labels, .one props => by simp [denoteUnder, flatUnder, toC, denoteBody]
  | t, labels, .many bodies => by
    simp only [denoteUnder, flatUnder, List.map_map]
    induction bodies with
    | nil => simp [denoteMany]
    | cons b rest ih => simp [denoteMany, ih, toC]
  | t, labels, .labelsObj part => by simp only [denoteUnder, flatUnder, denoteLabelProps_eq]
  | t, labels, .labelsArr parts => by simp only [denoteUnder, flatUnder, denoteLabelParts_eq]
theorem denoteLabelParts_eq : ∀ (t : String) (labels : List String) (parts : List (List (String × UnderL))),
    denoteLabelParts t labels parts = (flatLabelParts t labels parts).map toC
  | t, labels, [] => by simp [denoteLabelParts, flatLabelParts]
  | t, labels, p :: rest => by
    simp only [denoteLabelParts, flatLabelParts, List.map_append, denoteLabelProps_eq t labels p,
      denoteLabelParts_eq t labels rest]
theorem denoteLabelProps_eq : ∀ (t : String) (labels : List String) (part : List (String × UnderL)),
    denoteLabelProps t labels part = (flatLabelProps t labels part).map toC
  | t, labels, [] => by simp [denoteLabelProps, flatLabelProps]
  | t, labels, (k, u) :: rest => by
    simp only [denoteLabelProps, flatLabelProps, List.map_append, denoteUnder_eq t (labels ++ [k]) u,
      denoteLabelProps_eq t labels rest]
end

theorem denoteBlocks_eq (ps : List PropL) : denoteBlocks ps = (flatBlocks ps).map toC := by
  induction ps with
  | nil => simp [denoteBlocks, flatBlocks]
  | cons p rest ih => cases p <;> simp [denoteBlocks, flatBlocks, propBlocks, ih, denoteUnder_eq]

theorem native_blocks (L : BodyL) : (denoteBody L).native.blocks = (flatBlocks (bodyProps L)).map toN := by
  rw [denoteBody_eq, denoteBlocks_eq]
  simp only [Cfg.native, Cfg.blocks, List.map_map]
  apply List.map_congr_left
  intro fb _
  simp [toN, toC, CBlock.type, CBlock.labels]

theorem native_attrs (L : BodyL) : (denoteBody L).native.attrs = denoteAttrs (bodyProps L) := by
  rw [denoteBody_eq]; rfl

/-! Where a label is expected, `u` writes a list of `(label, what is under it)` pairs (`labelLevel`), as one object
or as an array of objects; `null` is the empty list.  With `k+1` labels left, every function of `u` is the
same function with `k` labels left, mapped over that list. -/

def labelLevel : UnderL → List (String × UnderL)
  | .labelsObj part => part
  | .labelsArr parts => parts.flatten
  | _ => []

/-- a label level is written, not block bodies -/
def isLevel : UnderL → Bool
  | .one _ | .many _ => false
  | _ => true

theorem renderLabelProps_map (part : List (String × UnderL)) :
    renderLabelProps part = part.map fun p => (p.1, renderUnder p.2) := by
  induction part with
  | nil => rfl
  | cons p rest ih => simp [renderLabelProps, ih]

theorem flatLabelProps_flatMap (t : String) (labels : List String) (part : List (String × UnderL)) :
    flatLabelProps t labels part = part.flatMap fun p => flatUnder t (labels ++ [p.1]) p.2 := by
  induction part with
  | nil => rfl
  | cons p rest ih => simp [flatLabelProps, ih]

theorem admLabelProps_all (cst : STree) (k : Nat) (part : List (String × UnderL)) :
    admLabelProps cst k part = part.all fun p => admUnder cst k p.2 := by
  induction part with
  | nil => rfl
  | cons p rest ih => simp [admLabelProps, ih]

theorem flatLabelParts_eq (t : String) (labels : List String) (parts : List (List (String × UnderL))) :
    flatLabelParts t labels parts = flatLabelProps t labels parts.flatten := by
  induction parts with
  | nil => rfl
  | cons p rest ih => simp [flatLabelParts, flatLabelProps_flatMap, ih]

theorem admLabelParts_eq (cst : STree) (k : Nat) (parts : List (List (String × UnderL))) :
    admLabelParts cst k parts = admLabelProps cst k parts.flatten := by
  induction parts with
  | nil => rfl
  | cons p rest ih => simp [admLabelParts, admLabelProps_all, ih]

theorem collect_labelParts_foldl (f : List (String × JV) × Bool → JV → List (String × JV) × Bool)
    (hf : ∀ acc props, f acc (.obj props) = (acc.1 ++ props, acc.2))
    (xs : List (List (String × UnderL))) (acc : List (String × JV) × Bool) :
    (renderLabelParts xs).foldl f acc = (acc.1 ++ renderLabelProps xs.flatten, acc.2) := by
  induction xs generalizing acc with
  | nil => simp [renderLabelParts, renderLabelProps]
  | cons p rest ih => simp [renderLabelParts, ih, hf, renderLabelProps_map]

theorem collect_level {u : UnderL} (h : isLevel u = true) :
    collectDeepAttrs (renderUnder u) = (renderLabelProps (labelLevel u), false) := by
  cases u with
  | none => rfl
  | one ps => cases h
  | many bs => cases h
  | labelsObj part => rfl
  | labelsArr parts =>
    simp only [renderUnder, collectDeepAttrs, labelLevel]
    rw [collect_labelParts_foldl _ (fun _ _ => rfl)]
    rfl

theorem flatUnder_level {u : UnderL} (h : isLevel u = true) (t : String) (labels : List String) :
    flatUnder t labels u = (labelLevel u).flatMap fun p => flatUnder t (labels ++ [p.1]) p.2 := by
  cases u with
  | none => rfl
  | one ps => cases h
  | many bs => cases h
  | labelsObj part => simp only [flatUnder, labelLevel, flatLabelProps_flatMap]
  | labelsArr parts => simp only [flatUnder, labelLevel, flatLabelParts_eq, flatLabelProps_flatMap]

theorem admUnder_succ (cst : STree) (k : Nat) (u : UnderL) :
    admUnder cst (k+1) u = (isLevel u && (labelLevel u).all fun p => admUnder cst k p.2) := by
  cases u with
  | none => rfl
  | one ps => rfl
  | many bs => rfl
  | labelsObj part => simp only [admUnder, isLevel, labelLevel, admLabelProps_all, Bool.true_and]
  | labelsArr parts => simp only [admUnder, isLevel, labelLevel, admLabelParts_eq, admLabelProps_all, Bool.true_and]

theorem go_flatMap (t : String) (k : Nat) (used : List String) (props : List (String × JV)) :
    unpackBlock.go t k used props =
      (props.flatMap fun p => (unpackBlock t k (used ++ [p.1]) p.2).1,
       props.flatMap fun p => (unpackBlock t k (used ++ [p.1]) p.2).2) := by
  induction props with
  | nil => simp [unpackBlock.go]
  | cons p rest ih => obtain ⟨k', sub⟩ := p; simp [unpackBlock.go, ih]

theorem go_append (t : String) (k : Nat) (used : List String) (a b : List (String × JV)) :
    unpackBlock.go t k used (a ++ b) =
      ((unpackBlock.go t k used a).1 ++ (unpackBlock.go t k used b).1,
       (unpackBlock.go t k used a).2 ++ (unpackBlock.go t k used b).2) := by
  simp only [go_flatMap, List.flatMap_append]

theorem unpack_succ (t : String) (k : Nat) (used : List String) (v : JV) :
    unpackBlock t (k+1) used v =
      if (collectDeepAttrs v).1.isEmpty then
        ([], (if (collectDeepAttrs v).2 then [JErr.incorrectType] else []) ++ [.missingLabel t])
      else
        ((unpackBlock.go t k used (collectDeepAttrs v).1).1,
         (if (collectDeepAttrs v).2 then [JErr.incorrectType] else []) ++
          (unpackBlock.go t k used (collectDeepAttrs v).1).2) := by
  rw [unpackBlock]

/-- with labels left, `unpackBlock` reads a label level: the blocks and errors found under each label, and
    "Missing block label" if there is none -/
theorem unpack_level {u : UnderL} (h : isLevel u = true) (t : String) (k : Nat) (used : List String) :
    unpackBlock t (k+1) used (renderUnder u) =
      ((labelLevel u).flatMap fun p => (unpackBlock t k (used ++ [p.1]) (renderUnder p.2)).1,
       if (labelLevel u).isEmpty then [.missingLabel t]
       else (labelLevel u).flatMap fun p => (unpackBlock t k (used ++ [p.1]) (renderUnder p.2)).2) := by
  rw [unpack_succ, collect_level h, renderLabelProps_map]
  cases labelLevel u with
  | nil => rfl
  | cons p rest => simp [go_flatMap, List.flatMap_map]

theorem renderBodies_eq (bodies : List BodyL) : renderBodies bodies = bodies.map renderBody := by
  induction bodies with
  | nil => rfl
  | cons b rest ih => simp [renderBodies, ih]

/-- the blocks found under a block type name or a label: exactly the blocks written there -/
theorem unpack_blocks (cst : STree) (t : String) : ∀ (k : Nat) (labels : List String) (u : UnderL),
    admUnder cst k u = true → (unpackBlock t k labels (renderUnder u)).1 = (flatUnder t labels u).map toJ
  | 0, labels, u, h => by
    cases u with
    | none => simp [renderUnder, unpackBlock, flatUnder]
    | one props => simp [renderUnder, unpackBlock, flatUnder, toJ, renderBody]
    | many bodies => simp [renderUnder, unpackBlock, flatUnder, toJ, renderBodies_eq]
    | labelsObj _ => cases h
    | labelsArr _ => cases h
  | k+1, labels, u, h => by
    rw [admUnder_succ, Bool.and_eq_true, List.all_eq_true] at h
    rw [unpack_level h.1, flatUnder_level h.1, List.map_flatMap]
    exact flatMap_congr' fun p hp => unpack_blocks cst t k _ p.2 (h.2 p hp)

theorem go_blocks : ∀ (cst : STree) (t : String) (k : Nat) (labels : List String) (part : List (String × UnderL)),
    admLabelProps cst k part = true →
    (unpackBlock.go t k labels (renderLabelProps part)).1 = (flatLabelProps t labels part).map toJ := by
  intro cst t k labels part h
  rw [admLabelProps_all, List.all_eq_true] at h
  rw [go_flatMap, renderLabelProps_map, List.flatMap_map, flatLabelProps_flatMap, List.map_flatMap]
  exact flatMap_congr' fun p hp => unpack_blocks cst t k _ p.2 (h p hp)

end HclModel.JBody.Proofs
