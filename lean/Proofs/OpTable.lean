import Proofs.OpParser
import HclModel.Syntax.OpTable
/-!
`parenthesize` produces a well-parenthesised tree (`WP`) and only adds parentheses.
-/
namespace HclModel.OpParser.Proofs

theorem parenthesize_wp_gen (T : Tbl) : ∀ (e : E) (d : Nat), d ≤ T.L → opsKnown T e →
    WP T d (parenthesize T d e) := by
  intro e
  induction e with
  | atom n => intro d _ _; simp only [parenthesize]; exact WP.atom _ _
  | paren e ih =>
    intro d _ h
    simp only [parenthesize]
    exact WP.paren _ _ (ih T.L (Nat.le_refl _) h)
  | bin k l r ihl ihr =>
    intro d hd h
    obtain ⟨hk, hl, hr⟩ := h
    cases hlv : T.lv k with
    | none => rw [hlv] at hk; simp at hk
    | some j =>
      have hj := T.ok k j hlv
      have hl' := ihl j hj.2 hl
      have hr' := ihr (j - 1) (by omega) hr
      simp only [parenthesize, hlv]
      split
      · exact WP.bin _ k j _ _ hlv ‹_› hl' hr'
      · exact WP.paren _ _ (WP.bin _ k j _ _ hlv hj.2 hl' hr')

theorem parenthesize_wp (T : Tbl) (e : E) (h : opsKnown T e) : WP T T.L (parenthesize T T.L e) :=
  parenthesize_wp_gen T e T.L (Nat.le_refl _) h

theorem parenthesize_erase (T : Tbl) (d : Nat) (e : E) :
    eraseParens (parenthesize T d e) = eraseParens e := by
  induction e generalizing d with
  | atom n => simp [parenthesize]
  | paren e ih => simp [parenthesize, eraseParens, ih]
  | bin k l r ihl ihr =>
    cases hlv : T.lv k with
    | none => simp [parenthesize, hlv]
    | some j =>
      simp only [parenthesize, hlv]
      split <;> simp [eraseParens, ihl, ihr]

end HclModel.OpParser.Proofs
