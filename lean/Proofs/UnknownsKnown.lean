import Proofs.UnknownsCond
import Proofs.EvalStepLemmas
/-!
Known in, known out (`kiko`), construct by construct: each invariant is read off what the construct returns when
it reports no diagnostics (`Proofs.EvalStepLemmas`).
-/
namespace HclModel.Proofs.Unk
open Val

@[simp] theorem strict_kd (F : Funcs) : (strictCx F).keepDropped = true := rfl
@[simp] theorem strict_kk (F : Funcs) : (strictCx F).keepKeyMarks = true := rfl
@[simp] theorem strict_funcs (F : Funcs) : (strictCx F).funcs = F := rfl

theorem hasErrors_nil : hasErrors [] = false := rfl

theorem knownEnv_lookup {ρ : Env} (hρ : knownEnv ρ) {x : String} {v : Val} (h : ρ.lookup x = some v) :
    whollyKnown v = true := hρ (x, v) (mem_of_lookupKey h)

theorem knownEnv_cons {ρ : Env} (hρ : knownEnv ρ) {x : String} {v : Val} (hv : whollyKnown v = true) :
    knownEnv ((x, v) :: ρ) := by
  intro p hp
  rcases List.mem_cons.mp hp with rfl | hp
  · exact hv
  · exact hρ p hp

theorem knownEnv_bindIter {ρ : Env} (hρ : knownEnv ρ) {kv vv : String} {k v : Val}
    (hk : whollyKnown k = true) (hv : whollyKnown v = true) : knownEnv (bindIter ρ kv vv k v) := by
  unfold bindIter
  split
  · exact knownEnv_cons hρ hv
  · exact knownEnv_cons (knownEnv_cons hρ hk) hv

/-- a known value that is not null is not what makes a construct give up without a diagnostic -/
theorem not_unk_of_known {v : Val} (hk : v.isKnown = true) (hn : v.isNull = false) :
    ¬ ((v.typeOf == Ty.dyn) = true ∨ v.isKnown = false) := by
  rintro (h | h)
  · exact typeOf_ne_dyn hk hn (by simpa using h)
  · rw [hk] at h; cases h

section
variable (F : Funcs)

theorem kiko_var (ρ : Env) (x : String) (hρ : knownEnv ρ) (h : (eval (strictCx F) ρ (.var x)).2 = []) :
    whollyKnown (eval (strictCx F) ρ (.var x)).1 = true := by
  rw [eval_var] at h ⊢
  cases hl : ρ.lookup x with
  | none => simp [hl, errOut] at h
  | some v => simpa [hl] using knownEnv_lookup hρ hl

theorem kiko_getAttr (ρ : Env) (e : Expr) (n : String)
    (ih : (eval (strictCx F) ρ e).2 = [] → whollyKnown (eval (strictCx F) ρ e).1 = true)
    (h : (eval (strictCx F) ρ (.getAttr e n)).2 = []) :
    whollyKnown (eval (strictCx F) ρ (.getAttr e n)).1 = true := by
  rw [eval_getAttr] at h ⊢
  obtain ⟨h1, h2⟩ := getAttrOut_nil h
  simpa [getAttrOut_eq, h1, hasErrors_nil] using getAttr_known (ih h1) h2

theorem kiko_index (ρ : Env) (e k : Expr)
    (ih1 : (eval (strictCx F) ρ e).2 = [] → whollyKnown (eval (strictCx F) ρ e).1 = true)
    (ih2 : (eval (strictCx F) ρ k).2 = [] → whollyKnown (eval (strictCx F) ρ k).1 = true)
    (h : (eval (strictCx F) ρ (.index e k)).2 = []) :
    whollyKnown (eval (strictCx F) ρ (.index e k)).1 = true := by
  rw [eval_index] at h ⊢
  obtain ⟨h1, h2, h3⟩ := indexOut_nil h
  exact index_known h3 (ih1 h1) (ih2 h2)

theorem kiko_bin (ρ : Env) (op : BinOp) (l r : Expr)
    (ih1 : (eval (strictCx F) ρ l).2 = [] → whollyKnown (eval (strictCx F) ρ l).1 = true)
    (ih2 : (eval (strictCx F) ρ r).2 = [] → whollyKnown (eval (strictCx F) ρ r).1 = true)
    (h : (eval (strictCx F) ρ (.bin op l r)).2 = []) :
    whollyKnown (eval (strictCx F) ρ (.bin op l r)).1 = true := by
  rw [eval_bin] at h ⊢
  have hd := evalBin_diags h
  exact evalBin_known h (ih1 hd.1) (ih2 hd.2)

theorem kiko_un (ρ : Env) (op : UnOp) (e : Expr)
    (ih : (eval (strictCx F) ρ e).2 = [] → whollyKnown (eval (strictCx F) ρ e).1 = true)
    (h : (eval (strictCx F) ρ (.un op e)).2 = []) :
    whollyKnown (eval (strictCx F) ρ (.un op e)).1 = true := by
  rw [eval_un] at h ⊢
  exact evalUn_known h (ih (evalUn_diags h))

theorem kiko_cond (ρ : Env) (c t f : Expr)
    (ih1 : (eval (strictCx F) ρ c).2 = [] → whollyKnown (eval (strictCx F) ρ c).1 = true)
    (ih2 : (eval (strictCx F) ρ t).2 = [] → whollyKnown (eval (strictCx F) ρ t).1 = true)
    (ih3 : (eval (strictCx F) ρ f).2 = [] → whollyKnown (eval (strictCx F) ρ f).1 = true)
    (h : (eval (strictCx F) ρ (.cond c t f)).2 = []) :
    whollyKnown (eval (strictCx F) ρ (.cond c t f)).1 = true := by
  rw [eval_cond] at h ⊢
  simp only [strict_kd] at h ⊢
  obtain ⟨h1, h2, h3, h4⟩ := evalCond_nil h
  rw [h4]
  have hc := evalCondCore_diags h1
  generalize eval (strictCx F) ρ c = co at *
  generalize eval (strictCx F) ρ t = to at *
  generalize eval (strictCx F) ρ f = fo at *
  obtain ⟨cv, cd⟩ := co; obtain ⟨tv, td⟩ := to; obtain ⟨fv, fd⟩ := fo
  exact evalCondCore_known h1 (ih1 hc) (ih2 h2) (ih3 h3)
end

/-- invariant of the groups that an object constructor or an object `for` collects -/
def GInv (P : Val → Prop) (kvs : List (String × List Val)) : Prop :=
  ∀ p ∈ kvs, p.2 ≠ [] ∧ ∀ v ∈ p.2, P v

theorem GInv_nil (P : Val → Prop) : GInv P [] := by intro p hp; simp at hp

theorem GInv_groupInsert {P : Val → Prop} {k : String} {v : Val} :
    ∀ {kvs : List (String × List Val)}, GInv P kvs → P v → GInv P (groupInsert k v kvs)
  | [], _, hv => by
    intro p hp
    simp only [groupInsert, List.mem_singleton] at hp
    subst hp
    exact ⟨by simp, by simpa using hv⟩
  | (k', vs) :: rest, h, hv => by
    have h1 := h (k', vs) (by simp)
    have h2 : GInv P rest := fun p hp => h p (by simp [hp])
    simp only [groupInsert]
    split
    · intro p hp
      rcases List.mem_cons.mp hp with rfl | hp
      · exact ⟨by simp, by simpa using hv⟩
      · exact h p hp
    · split
      · intro p hp
        rcases List.mem_cons.mp hp with rfl | hp
        · refine ⟨by simp, ?_⟩
          intro w hw
          rcases List.mem_append.mp hw with hw | hw
          · exact h1.2 w hw
          · simp at hw; subst hw; exact hv
        · exact h2 p hp
      · intro p hp
        rcases List.mem_cons.mp hp with rfl | hp
        · exact h1
        · exact GInv_groupInsert h2 hv p hp

theorem whollyKnownFields_headD {kvs : List (String × List Val)} (h : GInv (fun v => whollyKnown v = true) kvs) :
    whollyKnownFields (kvs.map fun (k, vs) => (k, vs.headD Val.dynVal)) = true := by
  apply whollyKnownFields_of_mem
  intro p hp
  obtain ⟨q, hq, rfl⟩ := List.mem_map.mp hp
  obtain ⟨k, vs⟩ := q
  obtain ⟨hne, hall⟩ := h _ hq
  cases vs with
  | nil => exact absurd rfl hne
  | cons v vs => exact hall v (by simp)

theorem whollyKnownFields_tuple {kvs : List (String × List Val)} (h : GInv (fun v => whollyKnown v = true) kvs) :
    whollyKnownFields (kvs.map fun (k, vs) => (k, Val.tuple Fl.none vs)) = true := by
  apply whollyKnownFields_of_mem
  intro p hp
  obtain ⟨q, hq, rfl⟩ := List.mem_map.mp hp
  obtain ⟨k, vs⟩ := q
  simp only [whollyKnown]
  exact whollyKnownList_of_mem (h _ hq).2

theorem keyVerdict_ne_none {k b : Val} (hk : k.isKnown = true) (hn : k.isNull = false)
    (h : tryConvert k .str = .ok b) : keyVerdict b ≠ none := by
  rcases tryConvert_str hn h with ⟨-, s, rfl⟩ | ⟨hu, -⟩
  · exact fun e => nomatch e
  · rw [hk] at hu; cases hu

theorem objStep_kvs {P : Val → Prop} {g : Bool} {ek ev : Val → Val → Out} {st : ForSt} {kv : Val × Val}
    (hv : (ev kv.1 kv.2).2 = [] → P (ev kv.1 kv.2).1) (hp : GInv P st.kvs)
    (h : (objStep g ek ev st kv).diags = []) : GInv P (objStep g ek ev st kv).kvs := by
  rw [objStep_gate] at h ⊢
  refine gated_keeps (I := fun s => GInv P s.kvs) ((gate_cases _ st).1.2 ▸ hp) (fun p s hs hd => ?_) h
  obtain ⟨hvd, e⟩ := objIns_nil hd
  rw [e]; exact GInv_groupInsert hs (hv hvd)

theorem forObjectStep_kvs {P : Val → Prop} {g : Bool} {ek ev : Val → Val → Out} {ec : Option (Val → Val → Out)}
    {st : ForSt} {kv : Val × Val} (hv : (ev kv.1 kv.2).2 = [] → P (ev kv.1 kv.2).1) (hp : GInv P st.kvs)
    (h : (forObjectStep g ek ev ec st kv).diags = []) : GInv P (forObjectStep g ek ev ec st kv).kvs := by
  cases ec with
  | none => exact objStep_kvs hv hp h
  | some c =>
    rw [forObjectStep_gate] at h ⊢
    exact gated_keeps (I := fun s => GInv P s.kvs) ((gate_cases _ st).1.2 ▸ hp)
      (fun _ _ hs hd => objStep_kvs hv hs hd) h

theorem objStep_known {g : Bool} {ek ev : Val → Val → Out} {st : ForSt} {kv : Val × Val}
    (hkey : (ek kv.1 kv.2).2 = [] → (ek kv.1 kv.2).1.isKnown = true)
    (hk : st.known = true) (h : (objStep g ek ev st kv).diags = []) : (objStep g ek ev st kv).known = true := by
  rw [objStep_gate] at h ⊢
  have le := gated_le (keyGate (ek kv.1 kv.2) st) fun (p : Fl × String) st =>
    (objIns_le g p.1 p.2 (ev kv.1 kv.2) st).of_add
  have ko := hkey (gate_operand_nil (gate_le _ _) le h)
  exact gated_keeps (I := fun s => s.known = true)
    (gate_known (le.diags h) hk ko fun hn b hb => keyVerdict_ne_none ko hn hb)
    (fun p s hs _ => (objIns_keeps g p.1 p.2 _ s).1.trans hs) h

theorem forObjectStep_known {g : Bool} {ek ev : Val → Val → Out} {ec : Option (Val → Val → Out)} {st : ForSt}
    {kv : Val × Val} (hc : ∀ c, ec = some c → (c kv.1 kv.2).2 = [] → (c kv.1 kv.2).1.isKnown = true)
    (hkey : (ek kv.1 kv.2).2 = [] → (ek kv.1 kv.2).1.isKnown = true)
    (hk : st.known = true) (h : (forObjectStep g ek ev ec st kv).diags = []) :
    (forObjectStep g ek ev ec st kv).known = true := by
  cases ec with
  | none => exact objStep_known hkey hk h
  | some c =>
    rw [forObjectStep_gate] at h ⊢
    have le := gated_le (objGate (c kv.1 kv.2) st) fun _ st => objStep_le g ek ev st kv
    exact gated_keeps (I := fun s => s.known = true)
      (gate_known (le.diags h) hk (hc c rfl (gate_operand_nil (gate_le _ _) le h)) fun _ b _ => condVerdict_ne_none b)
      (fun _ _ hs hd => objStep_known hkey hs hd) h

theorem elements_known {cv : Val} (hk : whollyKnown cv = true) {els : List (Val × Val)}
    (he : elements cv = some els) : ∀ kv ∈ els, whollyKnown kv.1 = true ∧ whollyKnown kv.2 = true := by
  cases cv <;> simp [elements] at he
  all_goals
    subst he
    simp only [whollyKnown] at hk
    intro kv hkv
    obtain ⟨⟨i, x⟩, hix, rfl⟩ := List.mem_map.mp hkv
  · exact ⟨rfl, whollyKnownList_mem hk x (List.of_mem_zip hix).2⟩
  · exact ⟨rfl, whollyKnownFields_mem hk _ hix⟩
  · exact ⟨rfl, whollyKnownList_mem hk x (List.of_mem_zip hix).2⟩
  · exact ⟨rfl, whollyKnownFields_mem hk _ hix⟩

theorem elements_ne_none {cv : Val} (hk : cv.isKnown = true) (hn : cv.isNull = false)
    (hc : canIterate cv.typeOf = true) : elements cv ≠ none := by
  cases cv <;> simp_all [isKnown, isNull, typeOf, canIterate, elements]

theorem tryConvert_bool_known {v : Val} (hk : whollyKnown v = true) (hn : v.isNull = false) :
    (∃ f b, tryConvert v .bool = .ok (.bool f b)) ∨ (∃ d, tryConvert v .bool = .error d) := by
  rcases tryConvert_cases v .bool with ⟨x, h1, h2⟩ | h
  · obtain ⟨f, b, rfl⟩ := cond_bool (isKnown_of_whollyKnown hk) hn h2
    exact Or.inl ⟨f, b, h1⟩
  · exact Or.inr h

section
variable (F : Funcs)

theorem forOut_known {co : Out} {probe : Option Out} {stepf : ForSt → Val × Val → ForSt} {fin : ForSt → Out}
    {P : ForSt → Prop} (hfd : ∀ st, (fin st).2 = st.diags) (hle : ∀ st kv, StLe st (stepf st kv))
    (ihc : co.2 = [] → whollyKnown co.1 = true)
    (hstep : ∀ st x, whollyKnown x.1 = true ∧ whollyKnown x.2 = true → P st → (stepf st x).diags = [] →
      P (stepf st x))
    (hinit : P { diags := [], marks := co.1.fl }) (hfin : ∀ st, P st → whollyKnown (fin st).1 = true)
    (h : (forOut co probe stepf fin).2 = []) : whollyKnown (forOut co probe stepf fin).1 = true := by
  have hk := ihc (forOut_ready hfd hle h).1
  have hku : whollyKnown co.1.unmark.1 = true := by simpa using hk
  refine forOut_keeps (Q := fun v => whollyKnown v = true) hfd hle (fun hn hc _ => ?_)
    (fun els hel st x hx => hstep st x (elements_known hku hel x hx)) hinit hfin h
  -- a known collection is not of the dynamic type, and can be enumerated if it can be iterated over
  rcases hc with hdy | ⟨hci, hel⟩
  · exact absurd (by simpa using hdy) (typeOf_ne_dyn (isKnown_of_whollyKnown hk) hn)
  · exact absurd hel (elements_ne_none (isKnown_of_whollyKnown hku) (by simpa using hn) (by simpa using hci))

theorem kiko_forTuple (ρ : Env) (kv vv : String) (coll val : Expr) (cond : Option Expr)
    (ihc : (eval (strictCx F) ρ coll).2 = [] → whollyKnown (eval (strictCx F) ρ coll).1 = true)
    (ihv : ∀ ρ', knownEnv ρ' → (eval (strictCx F) ρ' val).2 = [] → whollyKnown (eval (strictCx F) ρ' val).1 = true)
    (ihce : ∀ ce, cond = some ce → ∀ ρ', knownEnv ρ' → (eval (strictCx F) ρ' ce).2 = [] →
      whollyKnown (eval (strictCx F) ρ' ce).1 = true)
    (hρ : knownEnv ρ) (h : (eval (strictCx F) ρ (.forTuple kv vv coll val cond)).2 = []) :
    whollyKnown (eval (strictCx F) ρ (.forTuple kv vv coll val cond)).1 = true := by
  rw [eval_forTuple] at h ⊢
  refine forOut_known (P := fun st => st.known = true ∧ ∀ v ∈ st.vals, whollyKnown v = true) forTupleFin_diags
    (forTupleStep_le _ _) ihc (fun st x hx hp hd => ?_) ⟨rfl, fun _ hv => nomatch hv⟩ (fun st hp => ?_) h
  · have hρ' := knownEnv_bindIter (kv := kv) (vv := vv) hρ hx.1 hx.2
    refine ⟨forTupleStep_known (fun c hc e => ?_) hp.1 hd, forTupleStep_all (ihv _ hρ') hp.2 hd⟩
    obtain ⟨ce, rfl, rfl⟩ := Option.map_eq_some_iff.mp hc
    exact isKnown_of_whollyKnown (ihce ce rfl _ hρ' e)
  · simpa [forTupleFin, hp.1, whollyKnown] using whollyKnownList_of_mem hp.2

theorem kiko_forObject (ρ : Env) (kv vv : String) (coll key val : Expr) (cond : Option Expr) (group : Bool)
    (ihc : (eval (strictCx F) ρ coll).2 = [] → whollyKnown (eval (strictCx F) ρ coll).1 = true)
    (ihk : ∀ ρ', knownEnv ρ' → (eval (strictCx F) ρ' key).2 = [] → whollyKnown (eval (strictCx F) ρ' key).1 = true)
    (ihv : ∀ ρ', knownEnv ρ' → (eval (strictCx F) ρ' val).2 = [] → whollyKnown (eval (strictCx F) ρ' val).1 = true)
    (ihce : ∀ ce, cond = some ce → ∀ ρ', knownEnv ρ' → (eval (strictCx F) ρ' ce).2 = [] →
      whollyKnown (eval (strictCx F) ρ' ce).1 = true)
    (hρ : knownEnv ρ) (h : (eval (strictCx F) ρ (.forObject kv vv coll key val cond group)).2 = []) :
    whollyKnown (eval (strictCx F) ρ (.forObject kv vv coll key val cond group)).1 = true := by
  rw [eval_forObject] at h ⊢
  refine forOut_known (P := fun st => st.known = true ∧ GInv (fun v => whollyKnown v = true) st.kvs)
    (forObjectFin_diags group) (forObjectStep_le group _ _ _) ihc (fun st x hx hp hd => ?_) ⟨rfl, GInv_nil _⟩
    (fun st hp => ?_) h
  · have hρ' := knownEnv_bindIter (kv := kv) (vv := vv) hρ hx.1 hx.2
    refine ⟨forObjectStep_known (fun c hc e => ?_) (fun e => isKnown_of_whollyKnown (ihk _ hρ' e)) hp.1 hd,
      forObjectStep_kvs (ihv _ hρ') hp.2 hd⟩
    obtain ⟨ce, rfl, rfl⟩ := Option.map_eq_some_iff.mp hc
    exact isKnown_of_whollyKnown (ihce ce rfl _ hρ' e)
  · cases group
    · simpa [forObjectFin, hp.1, whollyKnown] using whollyKnownFields_headD hp.2
    · simpa [forObjectFin, hp.1, whollyKnown] using whollyKnownFields_tuple hp.2

theorem items_known {sv : Val} (hk : whollyKnown sv = true) :
    ∀ it ∈ splatItems sv, whollyKnown it = true := by
  cases sv with
  | list f t xs => simp only [whollyKnown] at hk; exact whollyKnownList_mem hk
  | tuple f xs => simp only [whollyKnown] at hk; exact whollyKnownList_mem hk
  | _ => intro it hit; cases hit

theorem kiko_splat (ρ : Env) (anon : String) (src each : Expr)
    (ihs : (eval (strictCx F) ρ src).2 = [] → whollyKnown (eval (strictCx F) ρ src).1 = true)
    (ihe : ∀ ρ', knownEnv ρ' → (eval (strictCx F) ρ' each).2 = [] → whollyKnown (eval (strictCx F) ρ' each).1 = true)
    (hρ : knownEnv ρ) (h : (eval (strictCx F) ρ (.splat anon src each)).2 = []) :
    whollyKnown (eval (strictCx F) ρ (.splat anon src each)).1 = true := by
  rw [eval_splat] at h ⊢
  have ksv := ihs (splatOut_nil h)
  generalize eval (strictCx F) ρ src = so at h ksv ⊢
  obtain ⟨sv, sd⟩ := so
  obtain ⟨e, -, q⟩ := splatOut_clean h
  rw [e]
  cases hn : sv.isNull
  case true => simp [whollyKnown, whollyKnownList]
  -- a known source is iterated as it is or as a one-element tuple: none of the unknown results comes about
  have hu := not_unk_of_known (isKnown_of_whollyKnown ksv) hn
  have hd : (sv.typeOf == Ty.dyn) = false := Bool.eq_false_iff.2 fun hd => hu (.inl hd)
  have ksrc : whollyKnown (splatSrc sv) = true := by
    rcases splatSrc_cases sv with ⟨-, e⟩ | ⟨-, e⟩ <;> rw [e]
    · simpa [whollyKnown, whollyKnownList] using ksv
    · exact ksv
  have hup : (splatAutoUp sv && !sv.isKnown) = false := by simp [isKnown_of_whollyKnown ksv]
  obtain ⟨hel, hf⟩ := (q hn hd).2 (isKnown_of_whollyKnown ksrc)
  simp only [hd, isKnown_of_whollyKnown ksrc, hup, Bool.not_true, Bool.false_eq_true, if_false]
  have hvl : whollyKnownList (((splatElems sv).map fun it => eval (strictCx F) ((anon, it) :: ρ) each).map (·.1))
      = true := by
    apply whollyKnownList_of_mem
    intro v hv
    obtain ⟨r, hr, rfl⟩ := List.mem_map.mp hv
    obtain ⟨it, hit, rfl⟩ := List.mem_map.mp hr
    exact ihe _ (knownEnv_cons hρ (items_known (by simpa using ksrc) it hit)) (hel it hit)
  rcases splatFinish_clean (hf hup) with ⟨-, t, e, -⟩ | ⟨-, e⟩ <;> rw [e, whollyKnown_withFl] <;> exact hvl

theorem tmplStep_known (st : TSt) (o : Out)
    (ho : o.2 = [] → whollyKnown o.1 = true) (hk : st.2.1 = true) (h : (tmplStep st o).1 = []) :
    (tmplStep st o).2.1 = true := by
  obtain ⟨-, hod, -, ⟨hu, -⟩ | ⟨-, s, -, e⟩⟩ := tmplStep_clean h
  · rw [isKnown_of_whollyKnown (ho hod)] at hu; cases hu
  · rw [e]; exact hk

theorem tmpl_fold_known : ∀ (outs : List Out), (∀ o ∈ outs, o.2 = [] → whollyKnown o.1 = true) →
    ∀ (st : TSt), st.2.1 = true → (outs.foldl tmplStep st).1 = [] →
      (outs.foldl tmplStep st).2.1 = true
  | [], _, st, hk, _ => hk
  | o :: outs, ho, st, hk, h => by
    have h1 := (tmplFold_diags (outs := outs) h).1
    exact tmpl_fold_known outs (fun o' ho' => ho o' (by simp [ho'])) _
      (tmplStep_known st o (ho o (by simp)) hk h1) h

theorem kiko_template (ρ : Env) (parts : List Expr)
    (ih : ∀ o ∈ evalEach (strictCx F) ρ parts, o.2 = [] → whollyKnown o.1 = true)
    (h : (eval (strictCx F) ρ (.template parts)).2 = []) :
    whollyKnown (eval (strictCx F) ρ (.template parts)).1 = true := by
  rw [eval_template, tmplOut_eq] at h ⊢
  have hd : ((evalEach (strictCx F) ρ parts).foldl tmplStep (([] : List Diag), true, Fl.none, "")).1 = [] := by
    split at h <;> exact h
  have := tmpl_fold_known _ ih _ rfl hd
  simp only [this, if_true]
  rfl

theorem tjoinLoop_known (tm : Fl) : ∀ (xs : List Val) (ds : List Diag) (ms : Fl) (buf : String),
    whollyKnownList xs = true → (tjoinLoop tm xs ds ms buf).2 = [] →
      whollyKnown (tjoinLoop tm xs ds ms buf).1 = true
  | [], ds, ms, buf, _, _ => by simp [tjoinLoop, whollyKnown]
  | x :: xs, ds, ms, buf, hk, h => by
    simp only [whollyKnownList, Bool.and_eq_true] at hk
    obtain ⟨hn, ⟨hx, -⟩ | ⟨-, -, s, -, e⟩⟩ := tjoinLoop_cons_clean h
    · exact absurd hx (not_unk_of_known (isKnown_of_whollyKnown hk.1) hn)
    · rw [e] at h ⊢
      exact tjoinLoop_known tm xs _ _ _ hk.2 h

theorem kiko_tjoin (ρ : Env) (t : Expr)
    (ih : (eval (strictCx F) ρ t).2 = [] → whollyKnown (eval (strictCx F) ρ t).1 = true)
    (hnn : (eval (strictCx F) ρ t).1.isNull = false)
    (h : (eval (strictCx F) ρ (.tjoin t)).2 = []) :
    whollyKnown (eval (strictCx F) ρ (.tjoin t)).1 = true := by
  rw [eval_tjoin] at h ⊢
  have hk := ih (tjoinOut_nil h)
  rcases tjoinOut_clean h with ⟨hx, -⟩ | ⟨-, -, f, xs, htv, e⟩
  · exact absurd hx (not_unk_of_known (isKnown_of_whollyKnown hk) hnn)
  · have hku : whollyKnown (eval (strictCx F) ρ t).1.unmark.1 = true := by simpa using hk
    rw [e] at h ⊢
    rw [htv] at hku
    exact tjoinLoop_known _ xs _ _ _ (by simpa [whollyKnown] using hku) h

theorem nextParam_ok {Q : Ty → Prop} (spec : FuncSpec) (ps : List Ty) (hp : ∀ t ∈ ps, Q t)
    (hv : ∀ t, spec.varParam = some t → Q t) :
    (∀ t, (nextParam spec ps).1 = some t → Q t) ∧ ∀ t ∈ (nextParam spec ps).2, Q t := by
  cases ps with
  | nil => exact ⟨hv, fun t ht => nomatch ht⟩
  | cons p ps =>
    exact ⟨fun t ht => by cases ht; exact hp _ (by simp), fun t ht => hp t (List.mem_cons_of_mem _ ht)⟩

/-- the converted arguments satisfy what the arguments satisfy, if conversion to the parameter types (which
satisfy `Q`) preserves it -/
theorem convertArgs_forall {P : Val → Prop} {Q : Ty → Prop} (spec : FuncSpec)
    (hP : ∀ v t v', Q t → P v → convert v t = .ok v' → P v') (hv : ∀ t, spec.varParam = some t → Q t) :
    ∀ (vs : List Val) (ps : List Ty), (∀ t ∈ ps, Q t) → (∀ v ∈ vs, P v) → ∀ v ∈ (convertArgs spec vs ps).1, P v
  | [], _, _, _ => by simp [convertArgs]
  | v :: vs, ps, hp, hk => by
    rw [convertArgs_cons]
    obtain ⟨hat, hps⟩ := nextParam_ok spec ps hp hv
    have ih := convertArgs_forall spec hP hv vs (nextParam spec ps).2 hps (fun v hv => hk v (by simp [hv]))
    have keep : ∀ x, P x → ∀ w ∈ x :: (convertArgs spec vs (nextParam spec ps).2).1, P w := fun x hx w hw => by
      rcases List.mem_cons.mp hw with rfl | hw
      · exact hx
      · exact ih w hw
    cases hpt : (nextParam spec ps).1 with
    | none => exact keep v (hk _ (by simp))
    | some t =>
      simp only
      rcases tryConvert_cases v t with ⟨v', hb, hb'⟩ | ⟨d, hb⟩ <;> rw [hb]
      · exact keep v' (hP v t v' (hat t hpt) (hk _ (by simp)) hb')
      · exact keep v (hk _ (by simp))

theorem convertArgs_known (spec : FuncSpec) (vs : List Val) (ps : List Ty)
    (hk : ∀ v ∈ vs, whollyKnown v = true) : ∀ v ∈ (convertArgs spec vs ps).1, whollyKnown v = true :=
  convertArgs_forall (Q := fun _ => True) spec (fun _ _ _ _ hv h => (convert_convP _ _ _ h).2.2.1 hv)
    (fun _ _ => trivial) vs ps (fun _ _ => trivial) hk

theorem any_eq_false_of_forall {α : Type} (p : α → Bool) (xs : List α) (h : ∀ x ∈ xs, p x = false) :
    xs.any p = false := by
  rw [List.any_eq_false]; intro x hx; simp [h x hx]

theorem callFunc_known (spec : FuncSpec)
    (hF : ∀ args r, (∀ a ∈ args, whollyKnown a = true) → spec.impl args = .ok r → whollyKnown r = true)
    (vals : List Val) (r : Val) (hk : ∀ v ∈ vals, whollyKnown v = true) (h : callFunc spec vals = .ok r) :
    whollyKnown r = true := by
  obtain ⟨hnull, r', rfl, hr'⟩ := callFunc_ok h
  have hnn : ∀ v ∈ vals, v.isNull = false := fun v hv => by simpa using List.any_eq_false.mp hnull v hv
  have h1 : (vals.any fun a => a.typeOf == Ty.dyn) = false :=
    any_eq_false_of_forall _ _ fun v hv => by simpa using typeOf_ne_dyn (isKnown_of_whollyKnown (hk v hv)) (hnn v hv)
  have h2 : (vals.any fun a => !a.isKnown) = false :=
    any_eq_false_of_forall _ _ fun v hv => by simp [isKnown_of_whollyKnown (hk v hv)]
  simp only [h1, h2, Bool.false_eq_true, if_false] at hr'
  rw [whollyKnown_withFl]
  refine hF _ _ ?_ hr'
  intro a ha
  obtain ⟨v, hv, rfl⟩ := List.mem_map.mp ha
  rw [whollyKnown_unmarkDeep]; exact hk v hv

theorem kiko_call (hF : SoundFuncs F) (ρ : Env) (fn : String) (args : List Expr) (expand : Option Expr)
    (iha : ∀ o ∈ evalEach (strictCx F) ρ args, o.2 = [] → whollyKnown o.1 = true)
    (ihe : ∀ le, expand = some le → (eval (strictCx F) ρ le).2 = [] → whollyKnown (eval (strictCx F) ρ le).1 = true)
    (h : (eval (strictCx F) ρ (.call fn args expand)).2 = []) :
    whollyKnown (eval (strictCx F) ρ (.call fn args expand)).1 = true := by
  rw [eval_call] at h ⊢
  simp only [strict_funcs] at h ⊢
  cases hf : F fn with
  | none => simp [hf, errOut] at h
  | some spec =>
    simp only [hf] at h ⊢
    cases hce : expandArg (expand.map (eval (strictCx F) ρ)) with
    | error o =>
      rw [hce, callOut_error] at h
      obtain ⟨eo, heo, hd, hn, hx⟩ := (expandArg_error hce).2 h
      obtain ⟨le, rfl, rfl⟩ := Option.map_eq_some_iff.mp heo
      have hk := isKnown_of_whollyKnown (ihe le rfl hd)
      rcases hx with hx | hx
      · exact absurd hx (typeOf_ne_dyn hk hn)
      · rw [hk] at hx; cases hx
    | ok p =>
      obtain ⟨extra, ed⟩ := p
      rw [hce] at h
      obtain ⟨hed, hargs, -, v, hv, hr⟩ := callOut_clean h
      rw [hr]
      refine callFunc_known spec (hF.known fn spec hf) _ v (convertArgs_known spec _ _ ?_) hv
      intro a ha
      rcases List.mem_append.mp ha with ha | ha
      · obtain ⟨o, ho, rfl⟩ := List.mem_map.mp ha
        exact iha o ho (hargs o ho)
      · obtain ⟨eo, x, heo, rfl, hx, rfl⟩ := expandArg_ok hce a ha
        obtain ⟨le, rfl, rfl⟩ := Option.map_eq_some_iff.mp heo
        rw [whollyKnown_withFl]
        exact items_known (ihe le rfl hed) x hx
end

theorem tupleForm_not_null (F : Cx) (ρ : Env) (t : Expr) (h : isTupleForm t = true) :
    (eval F ρ t).1.isNull = false := by
  cases t <;> simp [isTupleForm] at h
  case tuple es => rw [eval_tuple]; rfl
  case forTuple kv vv coll val cond =>
    rw [eval_forTuple]
    exact forOut_not_null _ _ _ fun st => by unfold forTupleFin; split <;> rfl

section
variable (F : Funcs) (hF : SoundFuncs F)
include hF
-- the members of the mutual block reach `hF` only through each other, which the linter does not see
set_option linter.unusedSectionVars false

mutual
theorem kiko : ∀ (e : Expr) (ρ : Env), knownOk e = true → knownEnv ρ → (eval (strictCx F) ρ e).2 = [] →
    whollyKnown (eval (strictCx F) ρ e).1 = true
  | .lit v => fun ρ ho _ _ => by rw [eval_lit]; simpa [knownOk] using ho
  | .var x => fun ρ _ hρ h => kiko_var F ρ x hρ h
  | .getAttr e n => fun ρ ho hρ h => by
    simp only [knownOk] at ho
    exact kiko_getAttr F ρ e n (kiko e ρ ho hρ) h
  | .index e k => fun ρ ho hρ h => by
    simp only [knownOk, Bool.and_eq_true] at ho
    exact kiko_index F ρ e k (kiko e ρ ho.1 hρ) (kiko k ρ ho.2 hρ) h
  | .bin op l r => fun ρ ho hρ h => by
    simp only [knownOk, Bool.and_eq_true] at ho
    exact kiko_bin F ρ op l r (kiko l ρ ho.1 hρ) (kiko r ρ ho.2 hρ) h
  | .un op e => fun ρ ho hρ h => by
    simp only [knownOk] at ho
    exact kiko_un F ρ op e (kiko e ρ ho hρ) h
  | .cond c t f => fun ρ ho hρ h => by
    simp only [knownOk, Bool.and_eq_true] at ho
    exact kiko_cond F ρ c t f (kiko c ρ ho.1.1 hρ) (kiko t ρ ho.1.2 hρ) (kiko f ρ ho.2 hρ) h
  | .tuple es => fun ρ ho hρ h => by
    simp only [knownOk] at ho
    rw [eval_tuple] at h ⊢
    simpa [whollyKnown] using kiko_list es ρ ho hρ h
  | .object items => fun ρ ho hρ h => by
    simp only [knownOk] at ho
    rw [eval_object, objectOut_eq] at h ⊢
    have hd : (evalItems (strictCx F) ρ items).1.diags = [] := by split at h <;> exact h
    obtain ⟨h1, h2⟩ := kiko_items items ρ ho hρ hd
    simp only [h1, Bool.not_true, Bool.false_eq_true, if_false, whollyKnown]
    exact whollyKnownFields_headD h2
  | .forTuple kv vv coll val cond => fun ρ ho hρ h => by
    unfold knownOk at ho
    simp only [Bool.and_eq_true] at ho
    exact kiko_forTuple F ρ kv vv coll val cond (kiko coll ρ ho.1.1 hρ) (fun ρ' => kiko val ρ' ho.1.2)
      (kiko_opt cond ho.2) hρ h
  | .forObject kv vv coll key val cond g => fun ρ ho hρ h => by
    unfold knownOk at ho
    simp only [Bool.and_eq_true] at ho
    exact kiko_forObject F ρ kv vv coll key val cond g (kiko coll ρ ho.1.1.1 hρ)
      (fun ρ' => kiko key ρ' ho.1.1.2) (fun ρ' => kiko val ρ' ho.1.2) (kiko_opt cond ho.2) hρ h
  | .splat anon src each => fun ρ ho hρ h => by
    simp only [knownOk, Bool.and_eq_true] at ho
    exact kiko_splat F ρ anon src each (kiko src ρ ho.1 hρ) (fun ρ' => kiko each ρ' ho.2) hρ h
  | .template parts => fun ρ ho hρ h => by
    simp only [knownOk] at ho
    exact kiko_template F ρ parts (kiko_each parts ρ ho hρ) h
  | .tjoin t => fun ρ ho hρ h => by
    simp only [knownOk, Bool.and_eq_true] at ho
    exact kiko_tjoin F ρ t (kiko t ρ ho.2 hρ) (tupleForm_not_null _ ρ t ho.1) h
  | .call fn args expand => fun ρ ho hρ h => by
    unfold knownOk at ho
    simp only [Bool.and_eq_true] at ho
    exact kiko_call F hF ρ fn args expand (kiko_each args ρ ho.1 hρ) (fun le hle => kiko_opt expand ho.2 le hle ρ hρ) h
/-- the optional part of a `for` expression or of a call -/
theorem kiko_opt : ∀ (o : Option Expr), (match o with | none => true | some e => knownOk e) = true →
    ∀ e, o = some e → ∀ ρ : Env, knownEnv ρ → (eval (strictCx F) ρ e).2 = [] →
    whollyKnown (eval (strictCx F) ρ e).1 = true
  | none => fun _ _ h => nomatch h
  | some e => fun ho _ h => by cases h; exact fun ρ => kiko e ρ ho
theorem kiko_list : ∀ (es : List Expr) (ρ : Env), knownOkList es = true → knownEnv ρ →
    (evalList (strictCx F) ρ es).2 = [] → whollyKnownList (evalList (strictCx F) ρ es).1 = true
  | [] => fun _ _ _ _ => by simp [evalList, whollyKnownList]
  | e :: es => fun ρ ho hρ h => by
    simp only [knownOkList, Bool.and_eq_true] at ho
    simp only [evalList, List.append_eq_nil_iff] at h ⊢
    simp only [whollyKnownList, Bool.and_eq_true]
    exact ⟨kiko e ρ ho.1 hρ h.1, kiko_list es ρ ho.2 hρ h.2⟩
theorem kiko_each : ∀ (es : List Expr) (ρ : Env), knownOkList es = true → knownEnv ρ →
    ∀ o ∈ evalEach (strictCx F) ρ es, o.2 = [] → whollyKnown o.1 = true
  | [] => fun _ _ _ => by simp [evalEach]
  | e :: es => fun ρ ho hρ => by
    simp only [knownOkList, Bool.and_eq_true] at ho
    intro o hmem
    simp only [evalEach, List.mem_cons] at hmem
    rcases hmem with rfl | hmem
    · exact kiko e ρ ho.1 hρ
    · exact kiko_each es ρ ho.2 hρ o hmem
theorem kiko_items : ∀ (items : List (Expr × Expr)) (ρ : Env), knownOkItems items = true → knownEnv ρ →
    (evalItems (strictCx F) ρ items).1.diags = [] → (evalItems (strictCx F) ρ items).2 = true ∧
      GInv (fun v => whollyKnown v = true) (evalItems (strictCx F) ρ items).1.kvs
  | [] => fun _ _ _ _ => by simp [evalItems]; exact GInv_nil _
  | (ke, ve) :: rest => fun ρ ho hρ h => by
    simp only [knownOkItems, Bool.and_eq_true] at ho
    rw [evalItems_cons] at h ⊢
    obtain ⟨hk, hv, hr, ⟨hu, -⟩ | ⟨-, s, -, e⟩⟩ := itemStep_clean h
    · rw [isKnown_of_whollyKnown (kiko ke ρ ho.1.1 hρ hk)] at hu; cases hu
    · obtain ⟨ih1, ih2⟩ := kiko_items rest ρ ho.2 hρ hr
      rw [e]
      refine ⟨ih1, ?_⟩
      dsimp only
      split
      · exact ih2
      · exact GInv_groupInsert ih2 (kiko ve ρ ho.1.2 hρ hv)
end
end

end HclModel.Proofs.Unk
