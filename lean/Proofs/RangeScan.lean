import HclModel.Lex.RangeScan
import Proofs.Pos
/-!
Proofs about the `RangeScanner` model: the loop's `end`/`new` bookkeeping equals a walk over the token's
clusters / the window's clusters, the reported ranges equal the recount from the start of the buffer, they
are ordered, contiguous at window boundaries, and cover exactly the token when it ends on a cluster boundary.
-/
namespace HclModel.Pos.Proofs

theorem tokPrefix_done (tokLen adv : Nat) (cls : List Cl) (h : ¬ adv < tokLen) :
    tokPrefix tokLen adv cls = [] := by
  cases cls with
  | nil => rfl
  | cons c cs => simp [tokPrefix, h]

/-- the loop: `new` walks the whole window; `end` walks the token's clusters, or stays when there are none -/
theorem scanLoop_eq (tokLen : Nat) (cls : List Cl) :
    ∀ (new stop : P) (adv : Nat),
      scanLoop tokLen new stop adv cls =
        (if tokPrefix tokLen adv cls = [] then stop else walk new (tokPrefix tokLen adv cls), walk new cls) := by
  induction cls with
  | nil => intro new stop adv; simp [scanLoop, tokPrefix, walk_nil]
  | cons c cs ih =>
    intro new stop adv
    simp only [scanLoop]
    rw [ih]
    by_cases h : adv < tokLen
    · simp only [h, if_true, tokPrefix, walk_cons]
      simp only [reduceCtorEq, if_false]
      congr 1
      split
      · rename_i h0; rw [h0, walk_nil]
      · rfl
    · have h' : ¬ adv + c.len < tokLen := by omega
      simp only [h, if_false, tokPrefix, tokPrefix_done tokLen (adv + c.len) cs h', if_true, walk_cons]

theorem scanWin_eq (pos : P) (w : Win) :
    scanWin pos w = (⟨0, pos, walk pos (tokPrefix w.tokLen 0 w.cls)⟩, walk pos w.cls) := by
  simp only [scanWin, scanLoop_eq]
  split
  · rename_i h; rw [h, walk_nil]
  · rfl

theorem scanAll_eq_ref_gen (start : P) (wins : List Win) :
    ∀ (before : List Cl), scanAll (walk start before) wins = refScan start before wins := by
  induction wins with
  | nil => intro before; simp [scanAll, refScan]
  | cons w ws ih =>
    intro before
    simp only [scanAll, scanWin_eq, refScan, posAt, walk_append]
    congr 1
    rw [← walk_append]
    exact ih (before ++ w.cls)

theorem clBytes_tokPrefix_le (tokLen : Nat) (cls : List Cl) :
    ∀ adv, clBytes (tokPrefix tokLen adv cls) ≤ clBytes cls := by
  induction cls with
  | nil => intro adv; simp [tokPrefix]
  | cons c cs ih =>
    intro adv
    simp only [tokPrefix]
    split
    · rw [clBytes_cons, clBytes_cons]
      have := ih (adv + c.len)
      omega
    · simp [clBytes_nil]

theorem scanAll_ordered_gen (wins : List Win) :
    ∀ (pos : P), OrderedFrom pos.byte (scanAll pos wins) := by
  induction wins with
  | nil => intro pos; exact .nil _
  | cons w ws ih =>
    intro pos
    simp only [scanAll, scanWin_eq]
    have := clBytes_tokPrefix_le w.tokLen w.cls 0
    exact .cons (Nat.le_refl _) (by simp only [walk_byte]; omega) (by simp only [walk_byte]; omega) (ih _)

theorem scanWin_covers (pos : P) (w : Win) (h : w.aligned) :
    (scanWin pos w).1.start = pos ∧ (scanWin pos w).1.stop.byte = pos.byte + w.tokLen := by
  rw [scanWin_eq]
  refine ⟨rfl, ?_⟩
  simp only [walk_byte]
  unfold Win.aligned at h
  omega

theorem scanAll_contiguous (pos : P) (w : Win) (ws : List Win) :
    scanAll pos (w :: ws) = (scanWin pos w).1 :: scanAll (walk pos w.cls) ws := by
  simp [scanAll, scanWin_eq]

end HclModel.Pos.Proofs
