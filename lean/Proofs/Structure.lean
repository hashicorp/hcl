import HclModel.Syntax.Structure
import Proofs.ListLemmas
/-!
C02: the structural parser model inverts the renderer, whatever the layout, and rejects a redefined attribute.
`okItems` is the parser's own duplicate check run over the rendering tree; `sim_items`: on the peeked tokens of
a rendering followed by any continuation, `parseBody` succeeds with the denoted items exactly when `okItems`
holds; and `okItems [] items = uniqueAttrs (denoteAll items)`.
-/
namespace HclModel.Structure.Proofs
open HclModel.Structure

/-- the attribute names `parseBody` has seen once it is past the item -/
def seenAfter (seen : List String) : RItem → List String
  | .attr _ name _ _ _ => name :: seen
  | _ => seen

mutual
def okItem (seen : List String) : RItem → Bool
  | .attr _ name _ _ _ => !seen.contains name
  | .block _ _ _ _ body _ _ => okItems [] body
  | .oneLine .. => true
  | .emptyBlock .. => true
def okItems (seen : List String) : List RItem → Bool
  | [] => true
  | i :: rest => okItem seen i && okItems (seenAfter seen i) rest
end

theorem attrNames_cons (a : Item) (l : List Item) : attrNames (a :: l) = attrNames [a] ++ attrNames l := by
  cases a <;> rfl

theorem nodup_attrNames_single (a : Item) : (attrNames [a]).Nodup := by
  cases a <;> simp [attrNames]

theorem uniqueAttrsIn_cons (a : Item) (l : List Item) :
    uniqueAttrsIn (a :: l) = (uniqueAttrsIn [a] && uniqueAttrsIn l) := by
  cases a <;> simp [uniqueAttrsIn]

theorem seenAfter_eq (seen : List String) (i : RItem) : seenAfter seen i = attrNames [denote i] ++ seen := by
  cases i <;> rfl

theorem attrNames_denote_cons (i : RItem) (acc : List Item) :
    attrNames (denote i :: acc) = seenAfter (attrNames acc) i := by
  rw [attrNames_cons, seenAfter_eq]

theorem uniqueAttrs_iff (l : List Item) :
    uniqueAttrs l = true ↔ (attrNames l).Nodup ∧ uniqueAttrsIn l = true := by
  rw [uniqueAttrs.eq_1]
  simp [eraseDups_length_eq_iff]

mutual
theorem okItem_iff (i : RItem) : ∀ seen, okItem seen i = true ↔
    ((∀ n ∈ attrNames [denote i], n ∉ seen) ∧ uniqueAttrsIn [denote i] = true) := by
  intro seen
  cases i with
  | attr pre name e mid eol => simp [okItem, denote, attrNames, uniqueAttrsIn]
  | block pre type labels ab body preClose eol =>
    have := okItems_iff body []
    simp [okItem, denote, attrNames, uniqueAttrsIn, uniqueAttrs_iff, this]
  | oneLine pre type labels name e eol =>
    simp [okItem, denote, attrNames, uniqueAttrsIn, uniqueAttrs_iff]
  | emptyBlock pre type labels eol =>
    simp [okItem, denote, attrNames, uniqueAttrsIn, uniqueAttrs_iff]
theorem okItems_iff (items : List RItem) : ∀ seen, okItems seen items = true ↔
    ((∀ n ∈ attrNames (denoteAll items), n ∉ seen) ∧ (attrNames (denoteAll items)).Nodup ∧
      uniqueAttrsIn (denoteAll items) = true) := by
  intro seen
  cases items with
  | nil => simp [okItems, denoteAll, attrNames, uniqueAttrsIn]
  | cons i rest =>
    -- Both sides in terms of the names `A` of the first item, `R` of the rest, and `seen`.  What is left
    -- for `grind` regroups conjuncts: "`A ++ R` avoids `seen`" splits in two, and "`R` avoids `A ++ seen`"
    -- gives "`R` avoids `seen`" and the disjointness of `A` and `R` that `Nodup (A ++ R)` asks for.
    rw [okItems, denoteAll, attrNames_cons, uniqueAttrsIn_cons]
    simp only [Bool.and_eq_true, okItem_iff i seen, okItems_iff rest, seenAfter_eq, List.mem_append,
      List.nodup_append, nodup_attrNames_single, true_and]
    grind
end

theorem okItems_eq_unique (items : List RItem) : okItems [] items = uniqueAttrs (denoteAll items) := by
  rw [Bool.eq_iff_iff, okItems_iff, uniqueAttrs_iff]
  simp

theorem peek_append (a b : List Raw) : peek (a ++ b) = peek a ++ peek b := by
  induction a with
  | nil => rfl
  | cons x a ih => cases x <;> simp [peek, ih]

/-- newlines contributed by layout noise (an inline comment contributes nothing) -/
def nlCount : List Noise → Nat
  | [] => 0
  | .inlineComment :: r => nlCount r
  | _ :: r => nlCount r + 1

theorem peek_noise (n : List Noise) : peek (noiseRaw n) = List.replicate (nlCount n) .nl := by
  induction n with
  | nil => rfl
  | cons x n ih => cases x <;> simp [noiseRaw, peek, ih, List.replicate_succ, nlCount]

theorem peek_sp (m : List Unit) : peek (sp m) = [] := by
  induction m with
  | nil => rfl
  | cons x m ih => simpa [sp, peek] using ih

/-- a label as the parser sees it -/
def labTok (l : Label) : Tok := if l.quoted then .qlabel l.text else .ident l.text

theorem peek_labels (ls : List Label) : peek (ls.map labelTok) = ls.map labTok := by
  induction ls with
  | nil => rfl
  | cons l ls ih =>
    simp only [List.map_cons, labelTok, labTok]
    split <;> simp [peek, ih]

theorem peek_eol (e : Eol) (r : List Raw) : peek (eolRaw e :: r) = .nl :: peek r := by
  cases e <;> rfl

mutual
/-- number of peeked tokens of a rendering -/
def isize : RItem → Nat
  | .attr pre _ _ _ _ => nlCount pre + 4
  | .block pre _ labels _ body preClose _ => nlCount pre + labels.length + 5 + isizes body + nlCount preClose
  | .oneLine pre _ labels _ _ _ => nlCount pre + labels.length + 7
  | .emptyBlock pre _ labels _ => nlCount pre + labels.length + 4
def isizes : List RItem → Nat
  | [] => 0
  | i :: rest => isize i + isizes rest
end

theorem toks_attr (pre name e mid eol) :
    peek (renderItem (.attr pre name e mid eol)) =
      List.replicate (nlCount pre) .nl ++ [.ident name, .eq, .expr e, .nl] := by
  simp [renderItem, peek_append, peek_noise, peek_sp, peek, peek_eol]

theorem toks_block (pre type labels ab body preClose eol) :
    peek (renderItem (.block pre type labels ab body preClose eol)) =
      List.replicate (nlCount pre) .nl ++ .ident type :: (labels.map labTok ++ .obrace :: .nl ::
        (peek (renderItems body) ++ (List.replicate (nlCount preClose) .nl ++ [.cbrace, .nl]))) := by
  simp [renderItem, peek_append, peek_noise, peek_labels, peek, peek_eol]

theorem toks_oneLine (pre type labels name e eol) :
    peek (renderItem (.oneLine pre type labels name e eol)) =
      List.replicate (nlCount pre) .nl ++ .ident type :: (labels.map labTok ++
        [.obrace, .ident name, .eq, .expr e, .cbrace, .nl]) := by
  simp [renderItem, peek_append, peek_noise, peek_labels, peek, peek_eol]

theorem toks_emptyBlock (pre type labels eol) :
    peek (renderItem (.emptyBlock pre type labels eol)) =
      List.replicate (nlCount pre) .nl ++ .ident type :: (labels.map labTok ++ [.obrace, .cbrace, .nl]) := by
  simp [renderItem, peek_append, peek_noise, peek_labels, peek, peek_eol]

mutual
theorem length_toks_item (i : RItem) : (peek (renderItem i)).length = isize i := by
  cases i with
  | attr pre name e mid eol => simp [toks_attr, isize]
  | block pre type labels ab body preClose eol =>
    simp [toks_block, isize, length_toks_items body]; omega
  | oneLine pre type labels name e eol => simp [toks_oneLine, isize]; omega
  | emptyBlock pre type labels eol => simp [toks_emptyBlock, isize]; omega
theorem length_toks_items (items : List RItem) : (peek (renderItems items)).length = isizes items := by
  cases items with
  | nil => simp [renderItems, peek, isizes]
  | cons i rest =>
    simp [renderItems, peek_append, isizes, length_toks_item i, length_toks_items rest]
end

theorem parseBody_nls (stop : Tok) (hs : stop = .eof ∨ stop = .cbrace) (n fuel : Nat) (rest : List Tok)
    (acc : List Item) :
    parseBody stop (fuel + n) (List.replicate n .nl ++ rest) acc = parseBody stop fuel rest acc := by
  induction n with
  | zero => simp
  | succ n ih =>
    rw [← Nat.add_assoc, parseBody.eq_2]
    rcases hs with rfl | rfl <;> simp [List.replicate_succ, headTok, ih]

theorem parseBody_stop (stop : Tok) (fuel : Nat) (rest : List Tok) (acc : List Item) :
    parseBody stop (fuel + 1) (stop :: rest) acc = some (acc.reverse, rest) := by
  simp [parseBody, headTok]

/-- what `parseBody` does with the result of `parseItem` -/
def afterItem (stop : Tok) (fuel : Nat) (acc : List Item) :
    Option (Item × List Tok) → Option (List Item × List Tok)
  | none => none
  | some (.attr n e, rest) =>
    if (attrNames acc).contains n then none else parseBody stop fuel rest (.attr n e :: acc)
  | some (.block t l b, rest) => parseBody stop fuel rest (.block t l b :: acc)

theorem parseBody_ident (stop : Tok) (hs : stop = .eof ∨ stop = .cbrace) (fuel : Nat) (name : String)
    (ts : List Tok) (acc : List Item) :
    parseBody stop (fuel + 1) (.ident name :: ts) acc =
      afterItem stop fuel acc (parseItem fuel name ts) := by
  rw [parseBody.eq_2]
  rcases hs with rfl | rfl <;> simp only [headTok, List.headD_cons, List.tail_cons, reduceCtorEq, if_false] <;>
    cases parseItem fuel name ts with
    | none => rfl
    | some p => obtain ⟨item, rest⟩ := p; cases item <;> rfl

theorem parseItem_attr (fuel : Nat) (name : String) (e : Nat) (rest : List Tok) :
    parseItem (fuel + 1) name (.eq :: .expr e :: .nl :: rest) = some (.attr name e, rest) := by
  simp [parseItem, headTok]

theorem parseItem_block (fuel : Nat) (name : String) (labels : List Label) (r : List Tok) :
    parseItem (fuel + 1) name (labels.map labTok ++ .obrace :: r) =
      parseBlock fuel name [] (labels.map labTok ++ .obrace :: r) := by
  cases labels with
  | nil => simp [parseItem, headTok]
  | cons l ls =>
    simp only [List.map_cons, labTok]
    split <;> simp [parseItem, headTok]

theorem parseBlock_labels (type : String) (labels : List Label) :
    ∀ (fuel : Nat) (acc : List String) (r : List Tok),
    parseBlock (fuel + labels.length) type acc (labels.map labTok ++ .obrace :: r) =
      parseBlock fuel type (acc ++ labels.map (·.text)) (.obrace :: r) := by
  induction labels with
  | nil => simp
  | cons l ls ih =>
    intro fuel acc r
    simp only [List.length_cons, ← Nat.add_assoc, List.map_cons, labTok]
    split <;> simp [parseBlock, headTok, ih]

/-- the closing part of a block: after the body, the rest of the line -/
def finishBlock (type : String) (labels : List String) :
    Option (List Item × List Tok) → Option (Item × List Tok)
  | none => none
  | some (body, rest) =>
    match headTok rest with
    | .nl => some (.block type labels body, rest.tail)
    | .eof => some (.block type labels body, rest.tail)
    | _ => none

theorem parseBlock_obrace_nl (fuel : Nat) (type : String) (labels : List String) (ts : List Tok) :
    parseBlock (fuel + 2) type labels (.obrace :: .nl :: ts) =
      finishBlock type labels (parseBody .cbrace fuel ts []) := by
  rw [parseBlock.eq_2]
  simp only [headTok, List.headD_cons, List.tail_cons]
  rw [parseBody.eq_2]
  simp only [headTok, List.headD_cons, List.tail_cons]
  simp only [finishBlock, headTok]
  rfl

theorem parseBlock_obrace_cbrace (fuel : Nat) (type : String) (labels : List String) (ts : List Tok) :
    parseBlock (fuel + 2) type labels (.obrace :: .cbrace :: .nl :: ts) =
      some (.block type labels [], ts) := by
  simp [parseBlock, headTok, parseBody]

theorem parseBlock_oneLine (fuel : Nat) (type : String) (labels : List String) (name : String) (e : Nat)
    (ts : List Tok) :
    parseBlock (fuel + 1) type labels (.obrace :: .ident name :: .eq :: .expr e :: .cbrace :: .nl :: ts) =
      some (.block type labels [.attr name e], ts) := by
  simp [parseBlock, headTok]

/-! Fuel is written as the number of peeked tokens of the rendering plus a surplus `k`; at least `k` is left
afterwards (`parseBody` spends one unit per newline and one per item; the nested parsers only need enough). -/

mutual
theorem sim_item_add (i : RItem) : ∀ (stop : Tok) (_ : stop = .eof ∨ stop = .cbrace) (k : Nat)
    (rest : List Tok) (acc : List Item),
    ∃ c, parseBody stop (isize i + k) (peek (renderItem i) ++ rest) acc =
      if okItem (attrNames acc) i then parseBody stop (k + c) rest (denote i :: acc) else none := by
  intro stop hs k rest acc
  cases i with
  | attr pre name e mid eol =>
    refine ⟨2 + 1, ?_⟩
    rw [show isize (.attr pre name e mid eol) + k = (k + 2 + 1 + 1) + nlCount pre by simp +arith [isize],
      toks_attr, List.append_assoc, parseBody_nls stop hs]
    simp only [List.cons_append, List.nil_append]
    rw [parseBody_ident stop hs, parseItem_attr]
    simp [afterItem, okItem, denote]
  | block pre type labels ab body preClose eol =>
    obtain ⟨c', hbody⟩ := sim_items body .cbrace (Or.inr rfl) (nlCount preClose + 1 + k)
      (List.replicate (nlCount preClose) .nl ++ .cbrace :: .nl :: rest) []
    change _ = (if okItems [] body = true then _ else none) at hbody
    refine ⟨isizes body + nlCount preClose + labels.length + 4, ?_⟩
    rw [show isize (.block pre type labels ab body preClose eol) + k =
        ((((isizes body + (nlCount preClose + 1 + k)) + 2) + labels.length) + 1 + 1) + nlCount pre by
      simp +arith [isize],
      toks_block, List.append_assoc, parseBody_nls stop hs]
    simp only [List.cons_append, List.append_assoc, List.nil_append]
    rw [parseBody_ident stop hs, parseItem_block, parseBlock_labels, parseBlock_obrace_nl, hbody]
    have hok : okItem (attrNames acc) (.block pre type labels ab body preClose eol) = okItems [] body := by
      simp [okItem]
    by_cases h : okItems [] body = true
    case neg => simp [hok, h, finishBlock, afterItem]
    case pos =>
      rw [if_pos h, if_pos (hok.trans h),
        show nlCount preClose + 1 + k + c' = (k + c' + 1) + nlCount preClose by omega,
        parseBody_nls .cbrace (Or.inr rfl), parseBody_stop]
      simp only [finishBlock, headTok, List.headD_cons, List.tail_cons, afterItem, denote, List.reverse_reverse,
        List.append_nil]
      congr 1; omega
  | oneLine pre type labels name e eol =>
    refine ⟨4 + 1 + labels.length + 1, ?_⟩
    rw [show isize (.oneLine pre type labels name e eol) + k =
        ((((k + 4) + 1) + labels.length) + 1 + 1) + nlCount pre by simp +arith [isize],
      toks_oneLine, List.append_assoc, parseBody_nls stop hs]
    simp only [List.cons_append, List.append_assoc, List.nil_append]
    rw [parseBody_ident stop hs, parseItem_block, parseBlock_labels, parseBlock_oneLine]
    simp [afterItem, okItem, denote, Nat.add_assoc]
  | emptyBlock pre type labels eol =>
    refine ⟨2 + labels.length + 1, ?_⟩
    rw [show isize (.emptyBlock pre type labels eol) + k =
        (((k + 2) + labels.length) + 1 + 1) + nlCount pre by simp +arith [isize],
      toks_emptyBlock, List.append_assoc, parseBody_nls stop hs]
    simp only [List.cons_append, List.append_assoc, List.nil_append]
    rw [parseBody_ident stop hs, parseItem_block, parseBlock_labels, parseBlock_obrace_cbrace]
    simp [afterItem, okItem, denote, Nat.add_assoc]
theorem sim_items (items : List RItem) : ∀ (stop : Tok) (_ : stop = .eof ∨ stop = .cbrace) (k : Nat)
    (rest : List Tok) (acc : List Item),
    ∃ c, parseBody stop (isizes items + k) (peek (renderItems items) ++ rest) acc =
      if okItems (attrNames acc) items then parseBody stop (k + c) rest ((denoteAll items).reverse ++ acc)
      else none := by
  intro stop hs k rest acc
  cases items with
  | nil => exact ⟨0, by simp [isizes, renderItems, peek, okItems, denoteAll]⟩
  | cons i items =>
    obtain ⟨c1, h1⟩ := sim_item_add i stop hs (isizes items + k) (peek (renderItems items) ++ rest) acc
    obtain ⟨c2, h2⟩ := sim_items items stop hs (k + c1) rest (denote i :: acc)
    refine ⟨c1 + c2, ?_⟩
    rw [isizes, Nat.add_assoc, renderItems, peek_append, List.append_assoc, h1, okItems]
    by_cases hi : okItem (attrNames acc) i = true
    case neg => simp [hi]
    case pos =>
      rw [if_pos hi, Nat.add_assoc, h2, attrNames_denote_cons]
      simp [denoteAll, hi, Nat.add_assoc]
end

theorem sim_item (i : RItem) : ∀ (stop : Tok) (_ : stop = .eof ∨ stop = .cbrace) (fuel : Nat)
    (rest : List Tok) (acc : List Item), isize i ≤ fuel →
    ∃ fuel', fuel ≤ fuel' + isize i ∧
      parseBody stop fuel (peek (renderItem i) ++ rest) acc =
        if okItem (attrNames acc) i then parseBody stop fuel' rest (denote i :: acc) else none := by
  intro stop hs fuel rest acc hf
  obtain ⟨k, rfl⟩ := Nat.exists_eq_add_of_le hf
  obtain ⟨c, h⟩ := sim_item_add i stop hs k rest acc
  exact ⟨k + c, by omega, h⟩

theorem parseConfig_render (items : List RItem) (trailing : List Noise) :
    parseConfig (renderFile items trailing) =
      if okItems [] items then some (denoteAll items) else none := by
  have hp : peek (renderFile items trailing) =
      peek (renderItems items) ++ (List.replicate (nlCount trailing) .nl ++ [.eof]) := by
    simp [renderFile, peek_append, peek_noise, peek]
  obtain ⟨c, h⟩ := sim_items items .eof (Or.inl rfl) (nlCount trailing + 1 + 1)
    (List.replicate (nlCount trailing) .nl ++ [.eof]) []
  change _ = (if okItems [] items = true then _ else none) at h
  unfold parseConfig
  simp only [hp, List.length_append, length_toks_items, List.length_replicate, List.length_singleton,
    Nat.add_assoc, h]
  by_cases hok : okItems [] items = true
  case neg => simp [hok]
  case pos =>
    rw [if_pos hok, if_pos hok, show nlCount trailing + (1 + (1 + c)) = (c + 1 + 1) + nlCount trailing by omega,
      parseBody_nls .eof (Or.inl rfl), parseBody_stop]
    simp

theorem parse_render (items : List RItem) (trailing : List Noise)
    (hu : uniqueAttrs (denoteAll items) = true) :
    parseConfig (renderFile items trailing) = some (denoteAll items) := by
  rw [parseConfig_render, okItems_eq_unique, hu]; rfl

theorem dup_rejected (items : List RItem) (trailing : List Noise)
    (hd : uniqueAttrs (denoteAll items) = false) :
    parseConfig (renderFile items trailing) = none := by
  rw [parseConfig_render, okItems_eq_unique, hd]; rfl

end HclModel.Structure.Proofs
