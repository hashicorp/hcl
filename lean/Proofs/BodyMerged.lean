import HclModel.Body.Merged
import Proofs.BodyNative
/-!
`mergedContent` (`HclModel/Body/Merged.lean`) read off one description of its loop over the children (`mfold`): blocks
and leftovers concatenated, one `addAttr` fold over all returned attributes; for the merged-body theorems of `Props/C04.lean`.
-/
namespace HclModel.Body.Proofs
open HclModel.Body
variable {α β : Type}

theorem findAttr_flatMap_none {γ : Type} (n : String) (f : γ → List (String × α)) (l : List γ) :
    findAttr n (l.flatMap f) = none ↔ ∀ x ∈ l, findAttr n (f x) = none := by
  induction l with
  | nil => simp [findAttr]
  | cons x l ih => simp [List.flatMap_cons, findAttr_append, ih]

theorem findAttr_flatMap_congr {γ : Type} (n : String) (f g : γ → List (String × α)) (l : List γ)
    (h : ∀ x ∈ l, findAttr n (f x) = findAttr n (g x)) :
    findAttr n (l.flatMap f) = findAttr n (l.flatMap g) := by
  induction l with
  | nil => rfl
  | cons x l ih =>
    simp only [List.flatMap_cons, findAttr_append]
    rw [h x (by simp), ih (fun y hy => h y (by simp [hy]))]

theorem relax_names (s : Schema) : s.relax.attrs.map (·.name) = s.attrs.map (·.name) := by
  simp [Schema.relax, Function.comp_def]

theorem relax_attrs_nodup {s : Schema} (h : (s.attrs.map (·.name)).Nodup) :
    (s.relax.attrs.map (·.name)).Nodup := by
  rw [relax_names]; exact h

theorem mem_relax_attrs (s : Schema) (as : AttrSchema) :
    as ∈ s.relax.attrs ↔ as.required = false ∧ ∃ as' ∈ s.attrs, as'.name = as.name := by
  simp only [Schema.relax, List.mem_map]
  constructor
  · rintro ⟨as', h, rfl⟩; exact ⟨rfl, as', h, rfl⟩
  · rintro ⟨hr, as', h, hn⟩
    refine ⟨as', h, ?_⟩
    cases as; cases as'; simp_all

theorem relax_named (s : Schema) (n : String) :
    (∃ as ∈ s.relax.attrs, as.name = n) ↔ ∃ as ∈ s.attrs, as.name = n := by
  constructor
  · rintro ⟨as, h, rfl⟩
    exact ((mem_relax_attrs s as).1 h).2
  · rintro ⟨as, h, rfl⟩
    exact ⟨{ as with required := false }, (mem_relax_attrs s _).2 ⟨rfl, as, h, rfl⟩, rfl⟩

theorem relax_disjoint {s₁ s₂ : Schema} (h : s₁.disjoint s₂) : s₁.relax.disjoint s₂.relax := by
  refine ⟨?_, h.2⟩
  intro a ha a' ha'
  obtain ⟨_, b, hb, e⟩ := (mem_relax_attrs _ _).1 ha
  obtain ⟨_, b', hb', e'⟩ := (mem_relax_attrs _ _).1 ha'
  rw [← e, ← e']; exact h.1 b hb b' hb'

theorem relax_union (s₁ s₂ : Schema) : (s₁.union s₂).relax = s₁.relax.union s₂.relax := by
  simp [Schema.relax, Schema.union]

theorem wanted_relax (s : Schema) (ty : String) : wanted s.relax ty = wanted s ty := rfl

section child
variable (b : NBody α β) (s : Schema)

theorem berr_ne_missingRequired (h : List String) (blk : Block β) (n : String) :
    berr h s blk ≠ some (.missingRequired n) := by
  unfold berr
  cases look h s blk.type with
  | none => simp
  | some bs =>
    simp only [Option.bind_some, labelErr]
    split
    · simp
    · split <;> simp

theorem partial_relax_no_mr (n : String) : ErrKind.missingRequired n ∉ (b.partialContent s.relax).2.2 := by
  rw [partialContent_eq, afold_relax_errs _ _ _ (fun as h => ((mem_relax_attrs s as).1 h).1), bstep_fold]
  simp [berr_ne_missingRequired]

theorem content_relax_no_mr (n : String) : ErrKind.missingRequired n ∉ (b.content s.relax).2 := by
  rw [content_eq]
  have := partial_relax_no_mr b s n
  simp [this]

end child

theorem addAttr_some {A : List (String × α)} {D : List MErrKind} {p : String × α} {a : α}
    (h : findAttr p.1 A = some a) : addAttr (A, D) p = (A, D ++ [.duplicateArgument p.1]) := by
  simp [addAttr, h]

theorem addAttr_none {A : List (String × α)} {D : List MErrKind} {p : String × α}
    (h : findAttr p.1 A = none) : addAttr (A, D) p = (A ++ [p], D) := by
  simp [addAttr, h]

/-- the reports never influence what is kept -/
theorem addfold_split (l : List (String × α)) (A : List (String × α)) (D : List MErrKind) :
    l.foldl addAttr (A, D) = ((l.foldl addAttr (A, [])).1, D ++ (l.foldl addAttr (A, [])).2) := by
  induction l generalizing A D with
  | nil => simp
  | cons p l ih =>
    simp only [List.foldl_cons]
    cases hf : findAttr p.1 A with
    | none => rw [addAttr_none hf, addAttr_none hf]; exact ih _ _
    | some a =>
      rw [addAttr_some hf, addAttr_some hf, ih A (D ++ [_]), ih A ([] ++ [_])]
      simp

/-- first definition wins -/
theorem addfold_find (l : List (String × α)) (acc : List (String × α) × List MErrKind) (n : String) :
    findAttr n (l.foldl addAttr acc).1 = (findAttr n acc.1).or (findAttr n l) := by
  induction l generalizing acc with
  | nil => simp [findAttr]
  | cons p l ih =>
    obtain ⟨m, a⟩ := p
    simp only [List.foldl_cons]
    rw [ih]
    obtain ⟨A, D⟩ := acc
    cases hf : findAttr m A with
    | some a' =>
      rw [addAttr_some (p := (m, a)) hf]
      by_cases e : m = n
      · subst e; simp [hf]
      · simp [findAttr, e]
    | none =>
      rw [addAttr_none (p := (m, a)) hf]
      by_cases e : m = n
      · subst e; simp [findAttr_append, findAttr, hf]
      · simp [findAttr_append, findAttr, e]

theorem addfold_nodup (l : List (String × α)) (A : List (String × α)) (D : List MErrKind)
    (h1 : ∀ p ∈ l, findAttr p.1 A = none) (h2 : (l.map (·.1)).Nodup) :
    l.foldl addAttr (A, D) = (A ++ l, D) := by
  induction l generalizing A with
  | nil => simp
  | cons p l ih =>
    simp only [List.foldl_cons]
    simp only [List.map_cons, List.nodup_cons, List.mem_map, not_exists, not_and] at h2
    have hp := h1 p (by simp)
    rw [addAttr_none hp, ih (A ++ [p]) ?_ h2.2]
    · simp
    · intro q hq
      rw [findAttr_append, h1 q (by simp [hq])]
      have : ¬ p.1 = q.1 := fun e => h2.1 q hq e.symm
      obtain ⟨m, a⟩ := p
      simp only at this
      simp [findAttr, this]

theorem addfold_only_dups (l : List (String × α)) (acc : List (String × α) × List MErrKind) (e : MErrKind)
    (h : e ∈ (l.foldl addAttr acc).2) : e ∈ acc.2 ∨ ∃ p ∈ l, e = .duplicateArgument p.1 := by
  induction l generalizing acc with
  | nil => exact Or.inl h
  | cons p l ih =>
    simp only [List.foldl_cons] at h
    rcases ih _ h with h' | ⟨q, hq, rfl⟩
    · obtain ⟨A, D⟩ := acc
      cases hf : findAttr p.1 A with
      | none => rw [addAttr_none hf] at h'; exact Or.inl h'
      | some a =>
        rw [addAttr_some hf] at h'
        simp only [List.mem_append, List.mem_singleton] at h'
        rcases h' with h' | rfl
        · exact Or.inl h'
        · exact Or.inr ⟨p, by simp, rfl⟩
    · exact Or.inr ⟨q, by simp [hq], rfl⟩

theorem addfold_dup (l₁ l₂ : List (String × α)) (n : String) (acc : List (String × α) × List MErrKind)
    (h₁ : ((findAttr n acc.1).or (findAttr n l₁)).isSome) (h₂ : (findAttr n l₂).isSome) :
    MErrKind.duplicateArgument n ∈ ((l₁ ++ l₂).foldl addAttr acc).2 := by
  obtain ⟨a₂, ha₂⟩ := Option.isSome_iff_exists.1 h₂
  obtain ⟨u, v, rfl⟩ := List.append_of_mem (findAttr_mem ha₂)
  rw [← List.append_assoc, List.foldl_append, List.foldl_cons]
  have h : (findAttr n ((l₁ ++ u).foldl addAttr acc).1).isSome := by
    rw [addfold_find, findAttr_append, ← Option.or_assoc]
    cases hh : (findAttr n acc.1).or (findAttr n l₁) <;> simp_all
  generalize (l₁ ++ u).foldl addAttr acc = X at h ⊢
  obtain ⟨a, ha⟩ := Option.isSome_iff_exists.1 h
  rw [addAttr_some (p := (n, a₂)) ha, addfold_split]
  simp

/-- what one child hands to the merging loop -/
def childRes (s' : Schema) (pm : Bool) (b : NBody α β) : Content α β × List (NBody α β) × List ErrKind :=
  if pm then ((b.partialContent s').1, [(b.partialContent s').2.1], (b.partialContent s').2.2)
  else ((b.content s').1, [], (b.content s').2)

/-- merging what a child returned into the accumulator -/
def merge (acc : MAcc α β) (r : Content α β × List (NBody α β) × List ErrKind) : MAcc α β :=
  { attrs := (r.1.attrs.foldl addAttr (acc.attrs, [])).1,
    blocks := acc.blocks ++ r.1.blocks,
    leftovers := acc.leftovers ++ r.2.1,
    errs := acc.errs ++ r.2.2.map .native ++ (r.1.attrs.foldl addAttr (acc.attrs, [])).2 }

theorem mergedStep_eq (s' : Schema) (pm : Bool) (acc : MAcc α β) (b : NBody α β) :
    mergedStep s' pm acc b = merge acc (childRes s' pm b) := by
  cases pm <;> rfl

theorem mfold (s' : Schema) (pm : Bool) (mb : List (NBody α β)) (acc : MAcc α β) :
    (mb.foldl (mergedStep s' pm) acc).attrs =
      ((mb.flatMap fun b => (childRes s' pm b).1.attrs).foldl addAttr (acc.attrs, [])).1 ∧
    (mb.foldl (mergedStep s' pm) acc).blocks = acc.blocks ++ mb.flatMap (fun b => (childRes s' pm b).1.blocks) ∧
    (mb.foldl (mergedStep s' pm) acc).leftovers = acc.leftovers ++ mb.flatMap (fun b => (childRes s' pm b).2.1) ∧
    ∀ e, e ∈ (mb.foldl (mergedStep s' pm) acc).errs ↔
      (e ∈ acc.errs ∨ (∃ b ∈ mb, ∃ e' ∈ (childRes s' pm b).2.2, e = .native e') ∨
        e ∈ ((mb.flatMap fun b => (childRes s' pm b).1.attrs).foldl addAttr (acc.attrs, [])).2) := by
  induction mb generalizing acc with
  | nil => simp
  | cons b mb ih =>
    obtain ⟨i1, i2, i3, i4⟩ := ih (merge acc (childRes s' pm b))
    simp only [List.foldl_cons, mergedStep_eq, List.flatMap_cons, List.foldl_append]
    rw [addfold_split]
    refine ⟨i1, ?_, ?_, ?_⟩
    · rw [i2]; simp [merge]
    · rw [i3]; simp [merge]
    · intro e
      rw [i4]
      simp only [merge, List.mem_append, List.mem_cons, exists_eq_or_imp, or_assoc, List.mem_map, eq_comm (a := e)]
      exact or_congr_right (or_congr_right or_left_comm)

theorem childRes_fst (s' : Schema) (pm : Bool) (b : NBody α β) : (childRes s' pm b).1 = (b.partialContent s').1 := by
  cases pm <;> rfl

/-- the attributes the children return, concatenated in child order -/
def cat (s : Schema) (mb : List (NBody α β)) : List (String × α) :=
  mb.flatMap fun b => (b.partialContent s.relax).1.attrs

section merged
variable (mb : List (NBody α β)) (s : Schema) (pm : Bool)

theorem mergedContent_eq :
    mergedContent mb s pm =
      (⟨(mb.foldl (mergedStep s.relax pm) ⟨[], [], [], []⟩).attrs,
        (mb.foldl (mergedStep s.relax pm) ⟨[], [], [], []⟩).blocks⟩,
       (mb.foldl (mergedStep s.relax pm) ⟨[], [], [], []⟩).leftovers,
       (mb.foldl (mergedStep s.relax pm) ⟨[], [], [], []⟩).errs ++
        s.attrs.filterMap fun as =>
          if as.required && (findAttr as.name (mb.foldl (mergedStep s.relax pm) ⟨[], [], [], []⟩).attrs).isNone
          then some (MErrKind.missingRequired as.name) else none) := rfl

theorem merged_attrs : (mergedContent mb s pm).1.attrs = ((cat s mb).foldl addAttr ([], [])).1 := by
  rw [mergedContent_eq]
  simp only [(mfold _ _ _ _).1, childRes_fst]; rfl

theorem merged_find (n : String) : findAttr n (mergedContent mb s pm).1.attrs = findAttr n (cat s mb) := by
  rw [merged_attrs, addfold_find]; simp [findAttr]

theorem merged_blocks :
    (mergedContent mb s pm).1.blocks = mb.flatMap fun b => (b.partialContent s.relax).1.blocks := by
  rw [mergedContent_eq]
  simp only [(mfold _ _ _ _).2.1, childRes_fst, List.nil_append]

theorem merged_leftovers :
    (mergedContent mb s pm).2.1 = mb.flatMap fun b => (childRes s.relax pm b).2.1 := by
  rw [mergedContent_eq]
  simp only [(mfold _ _ _ _).2.2.1, List.nil_append]

theorem mem_merged_errs (e : MErrKind) :
    e ∈ (mergedContent mb s pm).2.2 ↔
      ((∃ b ∈ mb, ∃ e' ∈ (childRes s.relax pm b).2.2, e = .native e') ∨
       e ∈ ((cat s mb).foldl addAttr ([], [])).2 ∨
       ∃ as ∈ s.attrs, as.required = true ∧ findAttr as.name (cat s mb) = none ∧
         e = MErrKind.missingRequired as.name) := by
  have hfind := merged_find mb s pm
  rw [mergedContent_eq] at hfind ⊢
  simp only at hfind
  simp only [List.mem_append, (mfold _ _ _ _).2.2.2 e, hfind, List.mem_filterMap, List.not_mem_nil, false_or, or_assoc,
    Option.ite_none_right_eq_some, Bool.and_eq_true, Option.isNone_iff_eq_none, Option.some.injEq]
  simp [cat, childRes_fst, and_assoc, eq_comm (a := e)]

theorem cat_find (n : String) (hh : (∃ as ∈ s.attrs, as.name = n) → ∀ b ∈ mb, n ∉ b.hiddenAttrs) :
    findAttr n (cat s mb) =
      if (∃ as ∈ s.attrs, as.name = n) then findAttr n (mb.flatMap (·.attrs)) else none := by
  unfold cat
  by_cases hn : ∃ as ∈ s.attrs, as.name = n
  · rw [if_pos hn]
    apply findAttr_flatMap_congr
    intro b hb
    rw [partial_find, if_pos ⟨hh hn b hb, (relax_named s n).2 hn⟩]
  · rw [if_neg hn, findAttr_flatMap_none]
    intro b _
    rw [partial_find, if_neg]
    rintro ⟨_, h⟩
    exact hn ((relax_named s n).1 h)

end merged

theorem cat_nodup (s : Schema) (mb : List (NBody α β)) (hd : MBody.attrsDisjoint mb) :
    ((cat s mb).map (·.1)).Nodup := by
  unfold cat
  induction mb with
  | nil => simp
  | cons b mb ih =>
    unfold MBody.attrsDisjoint at hd
    rw [List.pairwise_cons] at hd
    simp only [List.flatMap_cons, List.map_append]
    rw [List.nodup_append]
    refine ⟨partial_attrs_nodup b _, ih hd.2, ?_⟩
    intro x hx y hy e
    simp only [List.mem_map, List.mem_flatMap] at hx hy
    obtain ⟨p, hp, rfl⟩ := hx
    obtain ⟨p', ⟨b', hb', hp'⟩, rfl⟩ := hy
    exact hd.1 b' hb' p (partial_attrs_sub b _ p hp) p' (partial_attrs_sub b' _ p' hp') e

theorem no_dups (s : Schema) (mb : List (NBody α β)) (hd : MBody.attrsDisjoint mb) :
    (cat s mb).foldl addAttr ([], []) = (cat s mb, []) := by
  rw [addfold_nodup _ _ _ (by simp [findAttr]) (cat_nodup s mb hd)]; simp

theorem merged_errs_nil_iff (mb : List (NBody α β)) (s : Schema) (pm : Bool) (hd : MBody.attrsDisjoint mb)
    (hh : ∀ as ∈ s.attrs, ∀ b ∈ mb, as.name ∉ b.hiddenAttrs) :
    (mergedContent mb s pm).2.2 = [] ↔
      (∀ b ∈ mb, (childRes s.relax pm b).2.2 = []) ∧
      (∀ as ∈ s.attrs, as.required = true → (findAttr as.name (mb.flatMap (·.attrs))).isSome) := by
  have hfind : ∀ as ∈ s.attrs, findAttr as.name (cat s mb) = findAttr as.name (mb.flatMap (·.attrs)) :=
    fun as has => by rw [cat_find mb s as.name (fun _ => hh as has), if_pos ⟨as, has, rfl⟩]
  rw [List.eq_nil_iff_forall_not_mem]
  simp only [mem_merged_errs, no_dups s mb hd, List.not_mem_nil, false_or]
  constructor
  · intro h
    constructor
    · intro b hb
      rw [List.eq_nil_iff_forall_not_mem]
      intro e' he'
      exact h (.native e') (Or.inl ⟨b, hb, e', he', rfl⟩)
    · intro as has hr
      rw [← hfind as has]
      cases hf : findAttr as.name (cat s mb) with
      | some a => rfl
      | none => exact absurd (Or.inr ⟨as, has, hr, hf, rfl⟩) (h _)
  · rintro ⟨h1, h2⟩ e (⟨b, hb, e', he', _⟩ | ⟨as, has, hr, hf, _⟩)
    · rw [h1 b hb] at he'; simp at he'
    · have := h2 as has hr
      rw [← hfind as has, hf] at this; simp at this

theorem bgood_relax (h : List String) (s : Schema) : (bgood h s.relax : Block β → Bool) = bgood h s := rfl

theorem merged_blocks_concat (mb : List (NBody α β)) (s : Schema) (pm : Bool) (h : List String)
    (hf : ∀ b ∈ mb, b.hiddenBlocks = h) :
    (mergedContent mb s pm).1.blocks = (mb.flatMap (·.blocks)).filter (bgood h s) := by
  rw [merged_blocks, List.filter_flatMap]
  apply flatMap_congr'
  intro b hb
  rw [partial_blocks, hf b hb, bgood_relax]

theorem content_relax_errs_nil_iff (b : NBody α β) (s : Schema) (ha : b.hiddenAttrs = []) (hb : b.hiddenBlocks = [])
    (hs : (s.attrs.map (·.name)).Nodup) :
    (childRes s.relax false b).2.2 = [] ↔
      (∀ blk ∈ b.blocks, ∃ bs, wanted s blk.type = some bs ∧ blk.labels.length = bs.labelCount) ∧
      (∀ p ∈ b.attrs, ∃ as ∈ s.attrs, as.name = p.1) := by
  show (b.content s.relax).2 = [] ↔ _
  rw [content_error_iff_visible b s.relax ha hb (relax_attrs_nodup hs)]
  simp only [relax_named, wanted_relax, and_iff_right_iff_imp]
  intro _ as has hr
  rw [((mem_relax_attrs s as).1 has).1] at hr
  cases hr

theorem merged_eq_concat (mb : List (NBody α β)) (s : Schema)
    (hf : ∀ b ∈ mb, b.hiddenAttrs = [] ∧ b.hiddenBlocks = [] ∧ (b.attrs.map (·.1)).Nodup)
    (hd : MBody.attrsDisjoint mb) (hs : s.nodup) :
    (∀ n, findAttr n (MBody.content mb s).1.attrs = findAttr n ((MBody.concat mb).content s).1.attrs) ∧
    (MBody.content mb s).1.blocks = ((MBody.concat mb).content s).1.blocks ∧
    ((MBody.content mb s).2 = [] ↔ ((MBody.concat mb).content s).2 = []) := by
  refine ⟨?_, ?_, ?_⟩
  · intro n
    show findAttr n (mergedContent mb s false).1.attrs = _
    rw [merged_find, cat_find mb s n (fun _ b hb => by simp [(hf b hb).1]), content_fst, partial_find]
    simp [MBody.concat]
  · show (mergedContent mb s false).1.blocks = _
    rw [merged_blocks_concat mb s false [] (fun b hb => (hf b hb).2.1), content_fst, partial_blocks]
    rfl
  · show (mergedContent mb s false).2.2 = [] ↔ _
    rw [merged_errs_nil_iff mb s false hd (fun _ _ b hb => by simp [(hf b hb).1]),
      content_error_iff_visible _ s rfl rfl hs.1,
      forall₂_congr fun b hb => content_relax_errs_nil_iff b s (hf b hb).1 (hf b hb).2.1 hs.1]
    simp only [MBody.concat, List.forall_mem_flatMap, imp_and, forall_and]
    exact and_comm

theorem merged_duplicate_reported (pre rest : List (NBody α β)) (b₁ b₂ : NBody α β) (s : Schema) (pm : Bool)
    (n : String) (a₁ : α)
    (hf : ∀ b ∈ pre ++ b₁ :: rest, b.hiddenAttrs = [])
    (hn : ∃ as ∈ s.attrs, as.name = n)
    (hpre : ∀ b ∈ pre, findAttr n b.attrs = none)
    (h₁ : findAttr n b₁.attrs = some a₁)
    (hb₂ : b₂ ∈ rest) (h₂ : (findAttr n b₂.attrs).isSome) :
    MErrKind.duplicateArgument n ∈ (mergedContent (pre ++ b₁ :: rest) s pm).2.2 ∧
    findAttr n (mergedContent (pre ++ b₁ :: rest) s pm).1.attrs = some a₁ := by
  -- the value of `n` among the children's attributes, up to `b₁` and beyond
  have hfind : ∀ X : List (NBody α β), (∀ b ∈ X, b ∈ rest) →
      findAttr n (cat s (pre ++ b₁ :: X)) = some a₁ := by
    intro X hX
    rw [cat_find _ s n fun _ b hb => ?_, if_pos hn]
    · simp only [List.flatMap_append, List.flatMap_cons, findAttr_append]
      rw [(findAttr_flatMap_none n (·.attrs) pre).2 hpre, h₁]
      simp
    · have : b ∈ pre ++ b₁ :: rest := by
        simp only [List.mem_append, List.mem_cons] at hb ⊢
        exact hb.imp_right (Or.imp_right (hX b))
      simp [hf b this]
  constructor
  · rw [mem_merged_errs]
    refine Or.inr (Or.inl ?_)
    have hcat : cat s (pre ++ b₁ :: rest) = cat s (pre ++ b₁ :: []) ++ cat s rest := by simp [cat]
    rw [hcat]
    apply addfold_dup
    · rw [hfind [] (by simp)]; rfl
    · rw [cat_find rest s n fun _ b hb => by simp [hf b (by simp [hb])], if_pos hn, Option.isSome_iff_ne_none]
      intro h
      rw [(findAttr_flatMap_none n (·.attrs) rest).1 h b₂ hb₂] at h₂
      cases h₂
  · rw [merged_find, hfind rest (fun _ hb => hb)]

theorem merged_required_iff (mb : List (NBody α β)) (s : Schema) (pm : Bool) (as : AttrSchema)
    (hf : ∀ b ∈ mb, b.hiddenAttrs = []) (has : as ∈ s.attrs) (hr : as.required = true) :
    MErrKind.missingRequired as.name ∈ (mergedContent mb s pm).2.2 ↔ ∀ b ∈ mb, findAttr as.name b.attrs = none := by
  have hfind : findAttr as.name (cat s mb) = none ↔ ∀ b ∈ mb, findAttr as.name b.attrs = none := by
    rw [cat_find mb s as.name (fun _ b hb => by simp [hf b hb]), if_pos ⟨as, has, rfl⟩]
    exact findAttr_flatMap_none _ _ _
  rw [mem_merged_errs]
  constructor
  · rintro (⟨b, hb, e', he', h⟩ | h | ⟨as', has', hr', hf', h⟩)
    · simp only [MErrKind.missingRequired, MErrKind.native.injEq] at h
      subst h
      cases pm
      · exact absurd he' (content_relax_no_mr b s _)
      · exact absurd he' (partial_relax_no_mr b s _)
    · rcases addfold_only_dups _ _ _ h with h' | ⟨p, _, h'⟩
      · simp at h'
      · simp [MErrKind.missingRequired] at h'
    · simp only [MErrKind.missingRequired, MErrKind.native.injEq, ErrKind.missingRequired.injEq] at h
      rw [← h] at hf'
      exact hfind.1 hf'
  · intro h
    exact Or.inr (Or.inr ⟨as, has, hr, hfind.2 h, rfl⟩)

theorem leftovers_partial (mb : List (NBody α β)) (s : Schema) :
    (mergedContent mb s true).2.1 = mb.map fun b => (b.partialContent s.relax).2.1 := by
  rw [merged_leftovers, ← List.flatMap_singleton' (mb.map _), List.flatMap_map]
  rfl

-- `h₁`, `h₂` are carried without need: each child goes through `two_step_hidden`, the attributes through `cat_find`
set_option linter.unusedVariables false in
theorem merged_two_step (mb : List (NBody α β)) (s₁ s₂ : Schema)
    (hf : ∀ b ∈ mb, b.hiddenAttrs = [] ∧ b.hiddenBlocks = [] ∧ (b.attrs.map (·.1)).Nodup)
    (hd : MBody.attrsDisjoint mb) (h₁ : s₁.nodup) (h₂ : s₂.nodup) (hdj : s₁.disjoint s₂) :
    let p := MBody.partialContent mb s₁
    let c₂ := MBody.content p.2.1 s₂
    let c := MBody.content mb (s₁.union s₂)
    (∀ n, findAttr n c.1.attrs = findAttr n (p.1.attrs ++ c₂.1.attrs)) ∧
    (∀ ty, c.1.blocks.filter (·.type == ty) = (p.1.blocks ++ c₂.1.blocks).filter (·.type == ty)) ∧
    (c.2 = [] ↔ (p.2.2 = [] ∧ c₂.2 = [])) := by
  -- the leftover body `L` of step one
  obtain ⟨L, hL⟩ : ∃ L, L = mb.map fun b => (b.partialContent s₁.relax).2.1 := ⟨_, rfl⟩
  simp only [MBody.partialContent, MBody.content, leftovers_partial, ← hL]
  have hLattrs : L.flatMap (·.attrs) = mb.flatMap (·.attrs) := by
    rw [hL, List.flatMap_map]; rfl
  have hLhid : ∀ as ∈ s₂.attrs, ∀ b' ∈ L, as.name ∉ b'.hiddenAttrs := by
    intro as' has' b' hb' hn
    rw [hL] at hb'
    obtain ⟨b, hb, rfl⟩ := List.mem_map.1 hb'
    rw [mem_remain_hiddenAttrs, (hf b hb).1] at hn
    obtain ⟨as, has, e, _⟩ := hn.resolve_left List.not_mem_nil
    obtain ⟨as₁, has₁, e₁⟩ := (relax_named s₁ _).1 ⟨as, has, e⟩
    exact hdj.1 as₁ has₁ as' has' e₁
  have hLd : MBody.attrsDisjoint L := by
    rw [hL]; unfold MBody.attrsDisjoint; rw [List.pairwise_map]; exact hd
  have hvis : ∀ n, ∀ b ∈ mb, n ∉ b.hiddenAttrs := fun n b hb => by simp [(hf b hb).1]
  refine ⟨?_, ?_, ?_⟩
  · intro n
    rw [findAttr_append, merged_find, merged_find, merged_find, cat_find mb _ n fun _ => hvis n,
      cat_find mb s₁ n fun _ => hvis n, cat_find L s₂ n fun ⟨as, has, e⟩ => e ▸ hLhid as has, hLattrs]
    have hnamed : (∃ as ∈ (s₁.union s₂).attrs, as.name = n) ↔
        ((∃ as ∈ s₁.attrs, as.name = n) ∨ (∃ as ∈ s₂.attrs, as.name = n)) := by
      simp only [union_attrs, List.mem_append, or_and_right, exists_or]
    by_cases a1 : ∃ as ∈ s₁.attrs, as.name = n <;> by_cases a2 : ∃ as ∈ s₂.attrs, as.name = n <;>
      simp [hnamed, a1, a2]
  · -- blocks: in both steps those of all children filtered, the second step with the types of `s₁` hidden
    intro ty
    have hLblocks : L.flatMap (·.blocks) = mb.flatMap (·.blocks) := by
      rw [hL, List.flatMap_map]; rfl
    have hLhb : ∀ b' ∈ L, b'.hiddenBlocks = hideBlocks [] s₁.blocks := by
      rw [hL, List.forall_mem_map]
      intro b hb
      exact congrArg (hideBlocks · s₁.blocks) (hf b hb).2.1
    rw [merged_blocks_concat mb _ false [] fun b hb => (hf b hb).2.1,
      merged_blocks_concat mb _ true [] fun b hb => (hf b hb).2.1, merged_blocks_concat L _ false _ hLhb, hLblocks]
    exact filter_bgood_union hdj.2 [] _ ty
  · -- errors: child by child; each required attribute is looked for in the step whose schema names it
    have hchild : ∀ b : NBody α β, (childRes (s₁.union s₂).relax false b).2.2 = [] ↔
        ((childRes s₁.relax true b).2.2 = [] ∧
          (childRes s₂.relax false (b.partialContent s₁.relax).2.1).2.2 = []) := fun b => by
      rw [relax_union]
      exact (two_step_hidden b s₁.relax s₂.relax hdj.2).2.2
    rw [merged_errs_nil_iff mb _ false hd fun as _ => hvis as.name,
      merged_errs_nil_iff mb s₁ true hd fun as _ => hvis as.name, merged_errs_nil_iff L s₂ false hLd hLhid, hLattrs,
      hL, List.forall_mem_map, union_attrs, List.forall_mem_append]
    simp only [hchild, imp_and, forall_and]
    exact and_and_and_comm

theorem afold_relax (attrs : List (String × α)) (l : List AttrSchema)
    (acc acc' : List (String × α) × List String × List ErrKind) (h1 : acc.1 = acc'.1) (h2 : acc.2.1 = acc'.2.1) :
    ((l.map fun as => { as with required := false }).foldl (astep attrs) acc).1 = (l.foldl (astep attrs) acc').1 ∧
    ((l.map fun as => { as with required := false }).foldl (astep attrs) acc).2.1 = (l.foldl (astep attrs) acc').2.1 := by
  induction l generalizing acc acc' with
  | nil => exact ⟨h1, h2⟩
  | cons as l ih =>
    simp only [List.map_cons, List.foldl_cons]
    apply ih <;> simp only [astep_eq, h1, h2, pick]

section single
variable (b : NBody α β) (s : Schema)

theorem partial_relax_fst : (b.partialContent s.relax).1 = (b.partialContent s).1 := by
  rw [partialContent_eq, partialContent_eq]
  simp only [Schema.relax, (afold_relax b.attrs s.attrs _ _ rfl rfl).1]
  rfl

theorem partial_relax_remain : (b.partialContent s.relax).2.1 = (b.partialContent s).2.1 := by
  rw [partialContent_eq, partialContent_eq]
  simp only [Schema.relax, (afold_relax b.attrs s.attrs _ _ rfl rfl).2]

/-- the child's own missing-required errors -/
def ownMissing : List ErrKind := s.attrs.filterMap (areq b.attrs b.hiddenAttrs)

theorem partial_errs_relax (hs : (s.attrs.map (·.name)).Nodup) :
    (b.partialContent s).2.2 = ownMissing b s ++ (b.partialContent s.relax).2.2 := by
  rw [partialContent_eq, partialContent_eq,
    afold_relax_errs _ s.relax.attrs _ (fun as h => ((mem_relax_attrs s as).1 h).1), afold_eq _ _ _ hs]
  rfl

theorem content_errs_relax (hs : (s.attrs.map (·.name)).Nodup) :
    (b.content s).2 = ownMissing b s ++ (b.content s.relax).2 := by
  rw [content_eq, content_eq, partial_errs_relax b s hs, partial_relax_remain]
  simp

/-- relaxing the schema costs a child exactly its own missing-required errors -/
theorem childRes_relax (pm : Bool) (hs : (s.attrs.map (·.name)).Nodup) :
    (childRes s.relax pm b).1 = (childRes s pm b).1 ∧ (childRes s.relax pm b).2.1 = (childRes s pm b).2.1 ∧
    (childRes s pm b).2.2 = ownMissing b s ++ (childRes s.relax pm b).2.2 := by
  cases pm
  · exact ⟨partial_relax_fst b s, rfl, content_errs_relax b s hs⟩
  · exact ⟨partial_relax_fst b s, congrArg (fun x => [x]) (partial_relax_remain b s), partial_errs_relax b s hs⟩

theorem merged_singleton (pm : Bool) (hs : (s.attrs.map (·.name)).Nodup) :
    (mergedContent [b] s pm).1 = (childRes s pm b).1 ∧
    (mergedContent [b] s pm).2.1 = (childRes s pm b).2.1 ∧
    (mergedContent [b] s pm).2.2.Perm ((childRes s pm b).2.2.map .native) := by
  have hD : (b.partialContent s.relax).1.attrs.foldl addAttr ([], []) = ((b.partialContent s.relax).1.attrs, []) := by
    rw [addfold_nodup _ _ _ (by simp [findAttr]) (partial_attrs_nodup b _)]; simp
  -- the merged layer's missing-required errors are the child's own
  have hmiss : (s.attrs.filterMap fun as =>
      if as.required && (findAttr as.name (b.partialContent s.relax).1.attrs).isNone
      then some (MErrKind.missingRequired as.name) else none) = (ownMissing b s).map .native := by
    unfold ownMissing
    rw [List.map_filterMap]
    apply filterMap_congr'
    intro as has
    have hnamed : ∃ as' ∈ s.relax.attrs, as'.name = as.name := (relax_named s _).2 ⟨as, has, rfl⟩
    rw [partial_find]
    unfold areq pick
    by_cases hr : as.required = true
    · by_cases hh : as.name ∈ b.hiddenAttrs
      · simp [hr, hh, MErrKind.missingRequired]
      · cases findAttr as.name b.attrs <;> simp [hr, hh, hnamed, MErrKind.missingRequired]
    · simp [hr]
  obtain ⟨hc, hl, he⟩ := childRes_relax b s pm hs
  rw [mergedContent_eq]
  simp only [List.foldl_cons, List.foldl_nil, mergedStep_eq, merge, List.nil_append]
  rw [childRes_fst] at hc ⊢
  rw [hD, hmiss, he, ← hl]
  refine ⟨?_, rfl, ?_⟩
  · rw [← hc]
  · simp only [List.append_nil, List.map_append]
    exact List.perm_append_comm

end single

end HclModel.Body.Proofs
