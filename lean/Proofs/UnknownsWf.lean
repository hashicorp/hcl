import Proofs.UnknownsKnown
/-!
Static types (`staticTy`) and preservation of well-typedness (`wfVal`) by evaluation.
-/
namespace HclModel.Proofs.Unk
open Val

theorem resultTy_prim (op : BinOp) : op.resultTy.isPrim = true := by cases op <;> rfl
theorem unResultTy_prim (op : UnOp) : op.resultTy.isPrim = true := by cases op <;> rfl

theorem isNullLit_eval (F : Cx) (ρ : Env) {e : Expr} (h : isNullLit e = true) :
    ∃ fl, eval F ρ e = (.null fl .dyn, []) ∧ fl.m = false := by
  cases e with
  | lit v =>
    cases v with
    | null fl t =>
      cases t <;> simp [isNullLit] at h
      exact ⟨fl, by rw [eval_lit], h⟩
    | _ => simp [isNullLit] at h
  | _ => simp [isNullLit] at h

theorem template_type (F : Cx) (ρ : Env) (parts : List Expr) :
    typeOf (eval F ρ (.template parts)).1 = .str ∧ isLeaf (eval F ρ (.template parts)).1 = true := by
  rw [eval_template, tmplOut_eq]
  split <;> exact ⟨rfl, rfl⟩

theorem tjoin_type (F : Cx) (ρ : Env) (t : Expr) (h : (eval F ρ (.tjoin t)).2 = []) :
    typeOf (eval F ρ (.tjoin t)).1 = .str ∧ isLeaf (eval F ρ (.tjoin t)).1 = true := by
  rw [eval_tjoin] at h ⊢
  rcases tjoinOut_clean h with ⟨-, e⟩ | ⟨-, -, f, xs, -, e⟩ <;> rw [e]
  · exact ⟨rfl, rfl⟩
  · exact tjoinLoop_type _ _ _ _ _

theorem staticTy_cond {c t f : Expr} {T : Ty} (h : staticTy (.cond c t f) = some T) :
    (staticTy t = some T ∧ staticTy f = some T) ∨ (staticTy t = some T ∧ isNullLit f = true) ∨
      (isNullLit t = true ∧ staticTy f = some T) := by
  simp only [staticTy] at h
  cases ht : staticTy t <;> cases hf : staticTy f <;> simp only [ht, hf] at h
  · cases h
  · split at h <;> cases h
    exact Or.inr (Or.inr ⟨by assumption, rfl⟩)
  · split at h <;> cases h
    exact Or.inr (Or.inl ⟨rfl, by assumption⟩)
  · split at h <;> cases h
    rename_i hab
    exact Or.inl ⟨rfl, by rw [beq_iff_eq.mp hab]⟩

theorem staticTy_prim : ∀ (e : Expr) (T : Ty), staticTy e = some T → T.isPrim = true
  | .lit v, T, h => by
    simp only [staticTy] at h
    split at h
    · cases h; assumption
    · cases h
  | .bin op _ _, T, h => by simp only [staticTy] at h; cases h; exact resultTy_prim op
  | .un op _, T, h => by simp only [staticTy] at h; cases h; exact unResultTy_prim op
  | .template _, T, h => by simp only [staticTy] at h; cases h; rfl
  | .tjoin _, T, h => by simp only [staticTy] at h; cases h; rfl
  | .cond c t f, T, h => by
    rcases staticTy_cond h with ⟨ht, -⟩ | ⟨ht, -⟩ | ⟨-, hf⟩
    · exact staticTy_prim t T ht
    · exact staticTy_prim t T ht
    · exact staticTy_prim f T hf
  | .var _, _, h | .getAttr _ _, _, h | .index _ _, _, h | .tuple _, _, h | .object _, _, h
  | .forTuple _ _ _ _ _, _, h | .forObject _ _ _ _ _ _ _, _, h | .splat _ _ _, _, h | .call _ _ _, _, h => by
    simp [staticTy] at h

theorem condTy_of {F : Cx} {ρ : Env} {c t f : Expr} {T : Ty} (h : staticTy (.cond c t f) = some T)
    (iht : staticTy t = some T → typeOf (eval F ρ t).1 = T)
    (ihf : staticTy f = some T → typeOf (eval F ρ f).1 = T) :
    CondTy T (eval F ρ t).1 (eval F ρ f).1 := by
  refine ⟨staticTy_prim _ T h, ?_⟩
  rcases staticTy_cond h with ⟨ht, hf⟩ | ⟨ht, hn⟩ | ⟨hn, hf⟩
  · exact Or.inl ⟨iht ht, ihf hf⟩
  · obtain ⟨fl, he, hm⟩ := isNullLit_eval F ρ hn
    exact Or.inr (Or.inr ⟨iht ht, fl, by rw [he], hm⟩)
  · obtain ⟨fl, he, hm⟩ := isNullLit_eval F ρ hn
    exact Or.inr (Or.inl ⟨⟨fl, by rw [he], hm⟩, ihf hf⟩)

section
variable (F : Funcs)

theorem sty_eval : ∀ (e : Expr) (T : Ty) (ρ : Env), staticTy e = some T → (eval (strictCx F) ρ e).2 = [] →
    typeOf (eval (strictCx F) ρ e).1 = T
  | .lit v, T, ρ, h, _ => by
    simp only [staticTy] at h
    rw [eval_lit]
    split at h
    · cases h; rfl
    · cases h
  | .bin op l r, T, ρ, h, hd => by
    simp only [staticTy] at h; cases h
    rw [eval_bin] at hd ⊢
    exact (evalBin_type hd).1
  | .un op e, T, ρ, h, hd => by
    simp only [staticTy] at h; cases h
    rw [eval_un] at hd ⊢
    exact (evalUn_type hd).1
  | .template parts, T, ρ, h, _ => by
    simp only [staticTy] at h; cases h
    exact (template_type _ ρ parts).1
  | .tjoin t, T, ρ, h, hd => by
    simp only [staticTy] at h; cases h
    exact (tjoin_type _ ρ t hd).1
  | .cond c t f, T, ρ, h, hd => by
    rw [eval_cond] at hd ⊢
    simp only [strict_kd] at hd ⊢
    obtain ⟨h1, h2, h3, h4⟩ := evalCond_nil hd
    rw [h4]
    exact (evalCondCore_type (condTy_of h (fun ht => sty_eval t T ρ ht h2) (fun hf => sty_eval f T ρ hf h3)) h1).1
  | .var _, _, _, h, _ | .getAttr _ _, _, _, h, _ | .index _ _, _, _, h, _ | .tuple _, _, _, h, _
  | .object _, _, _, h, _ | .forTuple _ _ _ _ _, _, _, h, _ | .forObject _ _ _ _ _ _ _, _, _, h, _
  | .splat _ _ _, _, _, h, _ | .call _ _ _, _, _, h, _ => by
    simp [staticTy] at h

theorem cond_condTy (c t f : Expr) (T : Ty) (ρ : Env) (h : staticTy (.cond c t f) = some T)
    (h2 : (eval (strictCx F) ρ t).2 = []) (h3 : (eval (strictCx F) ρ f).2 = []) :
    CondTy T (eval (strictCx F) ρ t).1 (eval (strictCx F) ρ f).1 :=
  condTy_of h (fun ht => sty_eval F t T ρ ht h2) (fun hf => sty_eval F f T ρ hf h3)
end

theorem wfEnv_lookup {ρ : Env} (hρ : wfEnv ρ) {x : String} {v : Val} (h : ρ.lookup x = some v) :
    wfVal v = true := hρ (x, v) (mem_of_lookupKey h)

theorem wfEnv_cons {ρ : Env} (hρ : wfEnv ρ) {x : String} {v : Val} (hv : wfVal v = true) :
    wfEnv ((x, v) :: ρ) := by
  intro p hp
  rcases List.mem_cons.mp hp with rfl | hp
  · exact hv
  · exact hρ p hp

theorem wfEnv_bindIter {ρ : Env} (hρ : wfEnv ρ) {kv vv : String} {k v : Val}
    (hk : wfVal k = true) (hv : wfVal v = true) : wfEnv (bindIter ρ kv vv k v) := by
  unfold bindIter
  split
  · exact wfEnv_cons hρ hv
  · exact wfEnv_cons (wfEnv_cons hρ hk) hv

theorem elements_wf {cv : Val} (hk : wfVal cv = true) {els : List (Val × Val)} (he : elements cv = some els) :
    ∀ kv ∈ els, wfVal kv.1 = true ∧ wfVal kv.2 = true := by
  cases cv <;> simp [elements] at he
  all_goals
    subst he
    intro kv hkv
    obtain ⟨⟨i, x⟩, hix, rfl⟩ := List.mem_map.mp hkv
  · exact ⟨rfl, (wfElems_mem hk x (List.of_mem_zip hix).2).2⟩
  · exact ⟨rfl, (wfElemsF_mem hk _ hix).2⟩
  · exact ⟨rfl, wfList_mem hk x (List.of_mem_zip hix).2⟩
  · exact ⟨rfl, wfFields_mem hk _ hix⟩

theorem wfVal_dynVal_withFl (f : Fl) : wfVal (Val.dynVal.withFl f) = true := whollyKnown_dynVal_withFl f

theorem forOut_wf {co : Out} {probe : Option Out} {stepf : ForSt → Val × Val → ForSt} {fin : ForSt → Out}
    {P : ForSt → Prop} (hfd : ∀ st, (fin st).2 = st.diags) (hle : ∀ st kv, StLe st (stepf st kv))
    (ihc : co.2 = [] → wfVal co.1 = true)
    (hstep : ∀ st x, wfVal x.1 = true ∧ wfVal x.2 = true → P st → (stepf st x).diags = [] → P (stepf st x))
    (hinit : P { diags := [], marks := co.1.fl }) (hfin : ∀ st, P st → wfVal (fin st).1 = true)
    (h : (forOut co probe stepf fin).2 = []) : wfVal (forOut co probe stepf fin).1 = true :=
  forOut_keeps (Q := fun v => wfVal v = true) hfd hle (fun _ _ _ => rfl)
    (fun els hel st x hx =>
      hstep st x (elements_wf (by simpa using ihc (forOut_ready hfd hle h).1) hel x hx)) hinit hfin h

section
variable (F : Funcs)

theorem wfFields_headD {kvs : List (String × List Val)} (h : GInv (fun v => wfVal v = true) kvs) :
    wfFields (kvs.map fun (k, vs) => (k, vs.headD Val.dynVal)) = true := by
  apply wfFields_of_mem
  intro p hp
  obtain ⟨q, hq, rfl⟩ := List.mem_map.mp hp
  obtain ⟨k, vs⟩ := q
  obtain ⟨hne, hall⟩ := h _ hq
  cases vs with
  | nil => exact absurd rfl hne
  | cons v vs => exact hall v (by simp)

theorem wfFields_tuple {kvs : List (String × List Val)} (h : GInv (fun v => wfVal v = true) kvs) :
    wfFields (kvs.map fun (k, vs) => (k, Val.tuple Fl.none vs)) = true := by
  apply wfFields_of_mem
  intro p hp
  obtain ⟨q, hq, rfl⟩ := List.mem_map.mp hp
  obtain ⟨k, vs⟩ := q
  simp only [wfVal]
  exact wfList_of_mem (h _ hq).2

theorem wf_forTuple (ρ : Env) (kv vv : String) (coll val : Expr) (cond : Option Expr)
    (ihc : (eval (strictCx F) ρ coll).2 = [] → wfVal (eval (strictCx F) ρ coll).1 = true)
    (ihv : ∀ ρ', wfEnv ρ' → (eval (strictCx F) ρ' val).2 = [] → wfVal (eval (strictCx F) ρ' val).1 = true)
    (hρ : wfEnv ρ) (h : (eval (strictCx F) ρ (.forTuple kv vv coll val cond)).2 = []) :
    wfVal (eval (strictCx F) ρ (.forTuple kv vv coll val cond)).1 = true := by
  rw [eval_forTuple] at h ⊢
  refine forOut_wf (P := fun st => ∀ v ∈ st.vals, wfVal v = true) forTupleFin_diags (forTupleStep_le _ _) ihc
    (fun st x hx hp hd => forTupleStep_all (ihv _ (wfEnv_bindIter hρ hx.1 hx.2)) hp hd)
    (fun _ hv => nomatch hv) (fun st hp => ?_) h
  unfold forTupleFin
  split
  · rfl
  · simpa [wfVal] using wfList_of_mem hp

theorem wf_forObject (ρ : Env) (kv vv : String) (coll key val : Expr) (cond : Option Expr) (group : Bool)
    (ihc : (eval (strictCx F) ρ coll).2 = [] → wfVal (eval (strictCx F) ρ coll).1 = true)
    (ihv : ∀ ρ', wfEnv ρ' → (eval (strictCx F) ρ' val).2 = [] → wfVal (eval (strictCx F) ρ' val).1 = true)
    (hρ : wfEnv ρ) (h : (eval (strictCx F) ρ (.forObject kv vv coll key val cond group)).2 = []) :
    wfVal (eval (strictCx F) ρ (.forObject kv vv coll key val cond group)).1 = true := by
  rw [eval_forObject] at h ⊢
  refine forOut_wf (P := fun st => GInv (fun v => wfVal v = true) st.kvs) (forObjectFin_diags group)
    (forObjectStep_le group _ _ _) ihc
    (fun st x hx hp hd => forObjectStep_kvs (ihv _ (wfEnv_bindIter hρ hx.1 hx.2)) hp hd)
    (GInv_nil _) (fun st hp => ?_) h
  unfold forObjectFin
  split
  · rfl
  · split
    · simpa [wfVal] using wfFields_tuple hp
    · simpa [wfVal] using wfFields_headD hp

theorem items_wf {sv : Val} (hk : wfVal sv = true) : ∀ it ∈ splatItems sv, wfVal it = true := by
  cases sv with
  | list f t xs => simp only [wfVal] at hk; exact fun it hit => (wfElems_mem hk it hit).2
  | tuple f xs => simp only [wfVal] at hk; exact wfList_mem hk
  | _ => intro it hit; cases hit

theorem wf_splat (ρ : Env) (anon : String) (src each : Expr)
    (ihs : (eval (strictCx F) ρ src).2 = [] → wfVal (eval (strictCx F) ρ src).1 = true)
    (ihe : ∀ ρ', wfEnv ρ' → (eval (strictCx F) ρ' each).2 = [] → wfVal (eval (strictCx F) ρ' each).1 = true)
    (hρ : wfEnv ρ) (h : (eval (strictCx F) ρ (.splat anon src each)).2 = []) :
    wfVal (eval (strictCx F) ρ (.splat anon src each)).1 = true := by
  rw [eval_splat] at h ⊢
  have ksv := ihs (splatOut_nil h)
  generalize eval (strictCx F) ρ src = so at h ksv ⊢
  obtain ⟨sv, sd⟩ := so
  obtain ⟨e, -, q⟩ := splatOut_clean h
  rw [e]
  -- the results that are not built from the values of the body are well-typed whatever the source
  cases hn : sv.isNull
  case true => rfl
  cases hd : (sv.typeOf == Ty.dyn)
  case true => rfl
  cases hk : (splatSrc sv).isKnown
  case false => rfl
  cases hup : (splatAutoUp sv && !sv.isKnown)
  case true => rfl
  simp only [Bool.not_true, Bool.false_eq_true, if_false]
  have ksrc : wfVal (splatSrc sv) = true := by
    rcases splatSrc_cases sv with ⟨-, e⟩ | ⟨-, e⟩ <;> rw [e]
    · simpa [wfVal, wfList] using ksv
    · exact ksv
  obtain ⟨hel, hf⟩ := (q hn hd).2 hk
  have hvals : ∀ v ∈ ((splatElems sv).map fun it => eval (strictCx F) ((anon, it) :: ρ) each).map (·.1),
      wfVal v = true := by
    intro v hv
    obtain ⟨r, hr, rfl⟩ := List.mem_map.mp hv
    obtain ⟨it, hit, rfl⟩ := List.mem_map.mp hr
    exact ihe _ (wfEnv_cons hρ (items_wf (by simpa using ksrc) it hit)) (hel it hit)
  rcases splatFinish_clean (hf hup) with ⟨-, t, e, ht, -⟩ | ⟨-, e⟩ <;> rw [e, wfVal_withFl]
  · exact wfElems_of_mem fun w hw => ⟨ht w hw, hvals w hw⟩
  · exact wfList_of_mem hvals

theorem convert_wf {v v' : Val} {t : Ty} (hw : wfVal v = true) (ht : t.paramOk = true)
    (h : convert v t = .ok v') : wfVal v' = true := by
  simp only [Ty.paramOk, Bool.or_eq_true, beq_iff_eq] at ht
  rcases ht with rfl | ht
  · rw [convert_dyn] at h; cases h; exact hw
  · exact ((convert_convP v t v' h).2.2.2 ht).2 hw

theorem convertArgs_wf (spec : FuncSpec) (hv : ∀ t, spec.varParam = some t → t.paramOk = true)
    (vs : List Val) (ps : List Ty) (hp : ∀ t ∈ ps, t.paramOk = true) (hk : ∀ v ∈ vs, wfVal v = true) :
    ∀ v ∈ (convertArgs spec vs ps).1, wfVal v = true :=
  convertArgs_forall spec (fun _ _ _ ht hw h => convert_wf hw ht h) hv vs ps hp hk

theorem callFunc_wf (spec : FuncSpec)
    (hF : ∀ args r, (∀ a ∈ args, wfVal a = true) → spec.impl args = .ok r → wfVal r = true)
    (vals : List Val) (r : Val) (hk : ∀ v ∈ vals, wfVal v = true) (h : callFunc spec vals = .ok r) :
    wfVal r = true := by
  obtain ⟨-, r', rfl, hr'⟩ := callFunc_ok h
  rw [wfVal_withFl]
  split at hr'
  · rw [hr']; rfl
  · split at hr'
    · rw [hr']; rfl
    · refine hF _ _ ?_ hr'
      intro a ha
      obtain ⟨v, hv, rfl⟩ := List.mem_map.mp ha
      rw [wfVal_unmarkDeep]; exact hk v hv

theorem wf_call (hS : SoundFuncsS F) (ρ : Env) (fn : String) (args : List Expr) (expand : Option Expr)
    (iha : ∀ o ∈ evalEach (strictCx F) ρ args, o.2 = [] → wfVal o.1 = true)
    (ihe : ∀ le, expand = some le → (eval (strictCx F) ρ le).2 = [] → wfVal (eval (strictCx F) ρ le).1 = true)
    (h : (eval (strictCx F) ρ (.call fn args expand)).2 = []) :
    wfVal (eval (strictCx F) ρ (.call fn args expand)).1 = true := by
  rw [eval_call] at h ⊢
  simp only [strict_funcs] at h ⊢
  cases hf : F fn with
  | none => rfl
  | some spec =>
    simp only [hf] at h ⊢
    cases hce : expandArg (expand.map (eval (strictCx F) ρ)) with
    | error o => rw [callOut_error, (expandArg_error hce).1]; rfl
    | ok p =>
      obtain ⟨extra, ed⟩ := p
      rw [hce] at h
      obtain ⟨hed, hargs, -, v, hv, hr⟩ := callOut_clean h
      rw [hr]
      obtain ⟨hps, hvp⟩ := hS.params_ok fn spec hf
      refine callFunc_wf spec (hS.wf fn spec hf) _ v (convertArgs_wf spec hvp _ _ hps ?_) hv
      intro a ha
      rcases List.mem_append.mp ha with ha | ha
      · obtain ⟨o, ho, rfl⟩ := List.mem_map.mp ha
        exact iha o ho (hargs o ho)
      · obtain ⟨eo, x, heo, rfl, hx, rfl⟩ := expandArg_ok hce a ha
        obtain ⟨le, rfl, rfl⟩ := Option.map_eq_some_iff.mp heo
        rw [wfVal_withFl]
        exact items_wf (ihe le rfl hed) x hx
end

section
variable (F : Funcs) (hS : SoundFuncsS F)
include hS
-- the members of the mutual block reach `hS` only through each other, which the linter does not see
set_option linter.unusedSectionVars false

mutual
theorem wf_eval : ∀ (e : Expr) (ρ : Env), okExpr e = true → wfEnv ρ → (eval (strictCx F) ρ e).2 = [] →
    wfVal (eval (strictCx F) ρ e).1 = true
  | .lit v => fun ρ ho _ _ => by rw [eval_lit]; simpa [okExpr] using ho
  | .var x => fun ρ _ hρ h => by
    rw [eval_var] at h ⊢
    cases hl : ρ.lookup x with
    | none => rfl
    | some v => simpa [hl] using wfEnv_lookup hρ hl
  | .getAttr e n => fun ρ ho hρ h => by
    simp only [okExpr] at ho
    rw [eval_getAttr] at h ⊢
    obtain ⟨h1, -⟩ := getAttrOut_nil h
    simpa [getAttrOut_eq, h1, hasErrors_nil] using getAttr_wf (name := n) (wf_eval e ρ ho hρ h1)
  | .index e k => fun ρ ho hρ h => by
    simp only [okExpr, Bool.and_eq_true] at ho
    rw [eval_index] at h ⊢
    exact index_wf (wf_eval e ρ ho.1 hρ (indexOut_nil h).1)
  | .bin op l r => fun ρ _ _ h => by
    rw [eval_bin] at h ⊢
    exact (evalBin_type h).2
  | .un op e => fun ρ _ _ h => by
    rw [eval_un] at h ⊢
    exact (evalUn_type h).2
  | .cond c t f => fun ρ ho _ h => by
    simp only [okExpr, Bool.and_eq_true] at ho
    obtain ⟨T, hT⟩ := Option.isSome_iff_exists.mp ho.2
    rw [eval_cond] at h ⊢
    simp only [strict_kd] at h ⊢
    obtain ⟨h1, h2, h3, h4⟩ := evalCond_nil h
    rw [h4]
    exact wfVal_leaf (evalCondCore_type (cond_condTy F c t f T ρ hT h2 h3) h1).2
  | .tuple es => fun ρ ho hρ h => by
    simp only [okExpr] at ho
    rw [eval_tuple] at h ⊢
    simpa [wfVal] using wf_list es ρ ho hρ h
  | .object items => fun ρ ho hρ h => by
    simp only [okExpr] at ho
    rw [eval_object, objectOut_eq] at h ⊢
    split
    · rfl
    · rename_i hk
      simp only [hk] at h
      simp only [wfVal]
      exact wfFields_headD (wf_items items ρ ho hρ h)
  | .forTuple kv vv coll val cond => fun ρ ho hρ h => by
    unfold okExpr at ho
    simp only [Bool.and_eq_true] at ho
    exact wf_forTuple F ρ kv vv coll val cond (wf_eval coll ρ ho.1.1 hρ) (fun ρ' => wf_eval val ρ' ho.1.2) hρ h
  | .forObject kv vv coll key val cond g => fun ρ ho hρ h => by
    unfold okExpr at ho
    simp only [Bool.and_eq_true] at ho
    exact wf_forObject F ρ kv vv coll key val cond g (wf_eval coll ρ ho.1.1.1 hρ)
      (fun ρ' => wf_eval val ρ' ho.1.2) hρ h
  | .splat anon src each => fun ρ ho hρ h => by
    simp only [okExpr, Bool.and_eq_true] at ho
    exact wf_splat F ρ anon src each (wf_eval src ρ ho.1.1 hρ) (fun ρ' => wf_eval each ρ' ho.1.2) hρ h
  | .template parts => fun ρ _ _ _ => wfVal_leaf (template_type _ ρ parts).2
  | .tjoin t => fun ρ _ _ h => wfVal_leaf (tjoin_type _ ρ t h).2
  | .call fn args expand => fun ρ ho hρ h => by
    unfold okExpr at ho
    simp only [Bool.and_eq_true] at ho
    exact wf_call F hS ρ fn args expand (wf_each args ρ ho.1 hρ) (fun le hle => wf_opt expand ho.2 le hle ρ hρ) h
/-- the optional final argument of a call -/
theorem wf_opt : ∀ (o : Option Expr), (match o with | none => true | some e => okExpr e) = true →
    ∀ e, o = some e → ∀ ρ : Env, wfEnv ρ → (eval (strictCx F) ρ e).2 = [] → wfVal (eval (strictCx F) ρ e).1 = true
  | none => fun _ _ h => nomatch h
  | some e => fun ho _ h => by cases h; exact fun ρ => wf_eval e ρ ho
theorem wf_list : ∀ (es : List Expr) (ρ : Env), okList es = true → wfEnv ρ →
    (evalList (strictCx F) ρ es).2 = [] → wfList (evalList (strictCx F) ρ es).1 = true
  | [] => fun _ _ _ _ => by simp [evalList, wfList]
  | e :: es => fun ρ ho hρ h => by
    simp only [okList, Bool.and_eq_true] at ho
    simp only [evalList, List.append_eq_nil_iff] at h ⊢
    simp only [wfList, Bool.and_eq_true]
    exact ⟨wf_eval e ρ ho.1 hρ h.1, wf_list es ρ ho.2 hρ h.2⟩
theorem wf_each : ∀ (es : List Expr) (ρ : Env), okList es = true → wfEnv ρ →
    ∀ o ∈ evalEach (strictCx F) ρ es, o.2 = [] → wfVal o.1 = true
  | [] => fun _ _ _ => by simp [evalEach]
  | e :: es => fun ρ ho hρ => by
    simp only [okList, Bool.and_eq_true] at ho
    intro o hmem
    simp only [evalEach, List.mem_cons] at hmem
    rcases hmem with rfl | hmem
    · exact wf_eval e ρ ho.1 hρ
    · exact wf_each es ρ ho.2 hρ o hmem
theorem wf_items : ∀ (items : List (Expr × Expr)) (ρ : Env), okItems items = true → wfEnv ρ →
    (evalItems (strictCx F) ρ items).1.diags = [] →
      GInv (fun v => wfVal v = true) (evalItems (strictCx F) ρ items).1.kvs
  | [] => fun _ _ _ _ => by simp [evalItems]; exact GInv_nil _
  | (ke, ve) :: rest => fun ρ ho hρ h => by
    simp only [okItems, Bool.and_eq_true] at ho
    rw [evalItems_cons] at h ⊢
    obtain ⟨-, hv, hr, ⟨-, e⟩ | ⟨-, s, -, e⟩⟩ := itemStep_clean h
    · rw [e]; exact wf_items rest ρ ho.2 hρ hr
    · rw [e]
      dsimp only
      split
      · exact wf_items rest ρ ho.2 hρ hr
      · exact GInv_groupInsert (wf_items rest ρ ho.2 hρ hr) (wf_eval ve ρ ho.1.2 hρ hv)
end
end

end HclModel.Proofs.Unk
