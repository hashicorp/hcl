import HclModel.Dec.Decode
import Proofs.ValueConvert
/-!
C08: decoding against a specification yields a value of the specification's implied type.  `Good s`, the
statement for one specification, is shown for each specification kind from `Good` of its parts; `decode` is defined
by well-founded recursion, so its loops are handled by list induction under `Good` of the nested specification.
-/
namespace HclModel.Dec.Proofs
open HclModel HclModel.Val HclModel.Proofs

theorem tyBeqList_refl : ∀ as : List Ty, Ty.beqList as as = true := Ty.beqList_refl
theorem tyBeqFields_refl : ∀ as : List (String × Ty), Ty.beqFields as as = true := Ty.beqFields_refl
theorem tyBeqList_eq : ∀ as bs : List Ty, Ty.beqList as bs = true → as = bs := Ty.beqList_eq

mutual
theorem conforms_refl : ∀ a : Ty, conforms a a = true
  | .str | .num | .bool | .dyn => rfl
  | .list a | .map a => conforms_refl a
  | .tuple as => conformsAll_refl as
  | .object fs => conformsFields_refl fs
theorem conformsAll_refl : ∀ as : List Ty, conformsAll as as = true
  | [] => rfl
  | a :: as => Bool.and_eq_true_iff.2 ⟨conforms_refl a, conformsAll_refl as⟩
theorem conformsFields_refl : ∀ as : List (String × Ty), conformsFields as as = true
  | [] => rfl
  | (k, a) :: as =>
    Bool.and_eq_true_iff.2 ⟨Bool.and_eq_true_iff.2 ⟨beq_self_eq_true k, conforms_refl a⟩, conformsFields_refl as⟩
end

theorem conforms_dyn (a : Ty) : conforms a .dyn = true := by cases a <;> rfl

/- Pairs of different constructors are left to the match compiler: `conforms` computes on them, and the hypothesis
   is `false = true`. -/
mutual
theorem conforms_eq : ∀ a b : Ty, conforms a b = true → hasDyn b = false → a = b
  | _, .dyn, _, g => absurd g.symm Bool.false_ne_true
  | .str, .str, _, _ | .num, .num, _, _ | .bool, .bool, _, _ => rfl
  | .list a, .list b, h, g | .map a, .map b, h, g => congrArg _ (conforms_eq a b h g)
  | .tuple as, .tuple bs, h, g => congrArg _ (conformsAll_eq as bs h g)
  | .object as, .object bs, h, g => congrArg _ (conformsFields_eq as bs h g)
theorem conformsAll_eq : ∀ as bs : List Ty, conformsAll as bs = true → hasDynAll bs = false → as = bs
  | [], [], _, _ => rfl
  | _ :: _, [], h, _ | [], _ :: _, h, _ => absurd h Bool.false_ne_true
  | a :: as, b :: bs, h, g =>
    have h := Bool.and_eq_true_iff.1 h
    have g := Bool.or_eq_false_iff.1 g
    congr (congrArg _ (conforms_eq a b h.1 g.1)) (conformsAll_eq as bs h.2 g.2)
theorem conformsFields_eq : ∀ as bs : List (String × Ty), conformsFields as bs = true → hasDynFields bs = false → as = bs
  | [], [], _, _ => rfl
  | _ :: _, [], h, _ | [], _ :: _, h, _ => absurd h Bool.false_ne_true
  | (k, a) :: as, (l, b) :: bs, h, g => by
    have ⟨h, h3⟩ := Bool.and_eq_true_iff.1 h
    have ⟨h1, h2⟩ := Bool.and_eq_true_iff.1 h
    have g := Bool.or_eq_false_iff.1 g
    rw [eq_of_beq h1, conforms_eq a b h2 g.1, conformsFields_eq as bs h3 g.2]
end

def ConvConf (v : Val) : Prop := ∀ t v', convert v t = .ok v' → conforms v'.typeOf t = true

theorem convertPair_conf : ∀ (xs : List Val) (ts : List Ty) (ys : List Val), (∀ x ∈ xs, ConvConf x) →
    convertPair xs ts = .ok ys → xs.length = ts.length → conformsAll (typeOfList ys) ts = true
  | [], [], ys, _, h, _ => by rw [convertPair_nil_left] at h; cases h; rfl
  | [], _ :: _, _, _, _, hl | _ :: _, [], _, _, _, hl => by cases hl
  | x :: xs, t :: ts, ys, H, h, hl => by
    obtain ⟨y, ys', hy, hys, rfl⟩ := convertPair_cons_ok.1 h
    exact Bool.and_eq_true_iff.2 ⟨H x List.mem_cons_self t y hy,
      convertPair_conf xs ts ys' (fun x hx => H x (List.mem_cons_of_mem _ hx)) hys (Nat.succ.inj hl)⟩

theorem convertFieldsTo_conf : ∀ (xs : List (String × Val)) (ts : List (String × Ty)) (ys : List (String × Val)),
    (∀ p ∈ xs, ConvConf p.2) → convertFieldsTo xs ts = .ok ys → sameKeys xs ts = true →
    conformsFields (typeOfFields ys) ts = true
  | [], [], ys, _, h, _ => by rw [convertFieldsTo_nil_left] at h; cases h; rfl
  | [], _ :: _, _, _, _, hl | _ :: _, [], _, _, _, hl => by cases hl
  | (k, x) :: xs, (l, t) :: ts, ys, H, h, hl => by
    obtain ⟨y, ys', hy, hys, rfl⟩ := convertFieldsTo_cons_ok.1 h
    have hl := Bool.and_eq_true_iff.1 hl
    exact Bool.and_eq_true_iff.2 ⟨Bool.and_eq_true_iff.2 ⟨hl.1, H _ List.mem_cons_self t y hy⟩,
      convertFieldsTo_conf xs ts ys' (fun p hp => H p (List.mem_cons_of_mem _ hp)) hys hl.2⟩

theorem convert_conforms : ∀ (v : Val) (t : Ty) (v' : Val), convert v t = .ok v' → conforms v'.typeOf t = true := by
  refine val_induction (P := ConvConf) ?_ ?_ ?_ ?_ ?_
  · -- a leaf becomes a leaf of the type asked for, or stays as it is under `dyn`
    intro v hl t v' h
    rcases (convert_leaf hl h).2.2.2.2 with ⟨rfl, -⟩ | rfl
    · exact conforms_dyn _
    · exact conforms_refl _
  · intro f u xs _ t v' h
    rcases convert_list_inv h with ⟨rfl | rfl, rfl⟩ | ⟨b, ys, rfl, -, rfl⟩
    · exact conforms_dyn _
    · exact conforms_refl _
    · exact conforms_refl _
  · intro f u xs _ t v' h
    rcases convert_map_inv h with ⟨rfl | rfl, rfl⟩ | ⟨b, ys, rfl, -, rfl⟩
    · exact conforms_dyn _
    · exact conforms_refl _
    · exact conforms_refl _
  · intro f xs H t v' h
    rcases convert_tuple_inv h with ⟨rfl, rfl⟩ | ⟨b, ys, rfl, -, rfl⟩ | ⟨bs, ys, rfl, hl, hys, rfl⟩
    · exact conforms_dyn _
    · exact conforms_refl _
    · exact convertPair_conf xs bs ys H hys hl
  · intro f kvs H t v' h
    rcases convert_object_inv h with ⟨rfl, rfl⟩ | ⟨b, ys, rfl, -, rfl⟩ | ⟨gs, ys, rfl, hk, hys, rfl⟩
    · exact conforms_dyn _
    · exact conforms_refl _
    · exact convertFieldsTo_conf kvs gs ys H hys hk

theorem convertPair_conforms : ∀ (xs : List Val) (ts : List Ty) (ys : List Val), convertPair xs ts = .ok ys →
    xs.length = ts.length → conformsAll (typeOfList ys) ts = true :=
  fun xs ts ys => convertPair_conf xs ts ys fun x _ => convert_conforms x

theorem convertFieldsTo_conforms : ∀ (xs : List (String × Val)) (ts : List (String × Ty)) (ys : List (String × Val)),
    convertFieldsTo xs ts = .ok ys → sameKeys xs ts = true → conformsFields (typeOfFields ys) ts = true :=
  fun xs ts ys => convertFieldsTo_conf xs ts ys fun p _ => convert_conforms p.2

/-- the statement for one specification (the induction hypothesis for nested specifications) -/
def Good (s : Spec) : Prop :=
  ∀ attrs blocks labels v err, decode s attrs blocks labels = .ok v err → conforms v.typeOf (impliedType s) = true

theorem decodeBlocks_conf (nested : Spec) (H : Good nested) :
    ∀ (bs : List DBlock) (skip : Nat) (vs : List Val) (err : Bool), decodeBlocks nested bs skip = some (vs, err) →
      ∀ w ∈ vs, conforms w.typeOf (impliedType nested) = true
  | [], skip, vs, err, h => by
    rw [decodeBlocks.eq_def] at h
    simp only [Option.some.injEq, Prod.mk.injEq] at h
    obtain ⟨rfl, -⟩ := h
    simp
  | b :: rest, skip, vs, err, h => by
    rw [decodeBlocks.eq_def] at h
    simp only at h
    split at h
    · rename_i v e vs' e' hv hvs
      simp only [Option.some.injEq, Prod.mk.injEq] at h
      obtain ⟨rfl, -⟩ := h
      intro w hw
      rcases List.mem_cons.mp hw with rfl | hw
      · exact H _ _ _ _ _ hv
      · exact decodeBlocks_conf nested H rest skip vs' e' hvs w hw
    · simp at h

/-- trees built by a BlockMap with one label: one level of leaves, all of type `T` -/
def Flat (T : Ty) (t : MTree) : Prop :=
  ∃ kids, t = .node kids ∧ ∀ p ∈ kids, ∃ v, p.2 = .leaf v ∧ v.typeOf = T

theorem mem_insertSorted {α : Type} (k : String) (x : α) :
    ∀ (l : List (String × α)) (p : String × α), p ∈ insertSorted k x l → p = (k, x) ∨ p ∈ l
  | [], p, h => Or.inl (List.mem_singleton.1 h)
  | (k', v') :: rest, p, h => by
    rw [insertSorted] at h
    split at h
    · exact List.mem_cons.1 h
    · split at h
      · exact (List.mem_cons.1 h).imp_right (List.mem_cons_of_mem _)
      · rcases List.mem_cons.1 h with h | h
        · exact Or.inr (h ▸ List.mem_cons_self)
        · exact (mem_insertSorted k x rest p h).imp_right (List.mem_cons_of_mem _)

theorem mtInsert_flat {T : Ty} {t t' : MTree} {k : String} {v : Val} (ht : Flat T t) (hv : v.typeOf = T)
    (h : mtInsert [k] v t = some t') : Flat T t' := by
  obtain ⟨kids, rfl, hk⟩ := ht
  simp only [mtInsert] at h
  split at h
  · simp at h
  · simp only [Option.some.injEq] at h
    subst h
    refine ⟨_, rfl, ?_⟩
    intro p hp
    rcases mem_insertSorted _ _ _ _ hp with rfl | hp
    · exact ⟨v, rfl, hv⟩
    · exact hk p hp

theorem decodeMap_flat (nested : Spec) (H : Good nested) (hd : hasDyn (impliedType nested) = false) :
    ∀ (bs : List DBlock) (t : MTree) (err : Bool) (t' : MTree) (err' : Bool), Flat (impliedType nested) t →
      decodeMap nested 1 bs t err = some (t', err') → Flat (impliedType nested) t'
  | [], t, err, t', err', ht, h => by
    rw [decodeMap.eq_def] at h
    simp only [Option.some.injEq, Prod.mk.injEq] at h
    obtain ⟨rfl, -⟩ := h
    exact ht
  | b :: rest, t, err, t', err', ht, h => by
    rw [decodeMap.eq_def] at h
    simp only at h
    split at h
    · simp at h
    · rename_i hlen
      split at h
      · simp at h
      · rename_i v e hv
        have hty : v.typeOf = impliedType nested := conforms_eq _ _ (H _ _ _ _ _ hv) hd
        split at h
        · rename_i t1 hins
          have : ∃ l, List.take 1 b.labels = [l] := by
            cases hl : b.labels with
            | nil => simp [hl] at hlen
            | cons l ls => exact ⟨l, by simp⟩
          obtain ⟨l, hl⟩ := this
          rw [hl] at hins
          exact decodeMap_flat nested H hd rest t1 _ t' err' (mtInsert_flat ht hty hins) h
        · exact decodeMap_flat nested H hd rest t _ t' err' ht h

theorem mapVal_typeOf {kvs : List (String × Val)} {v : Val} (h : mapVal kvs = some v) :
    v.typeOf = .map (mapElemTy kvs) ∧ kvs ≠ [] := by
  simp only [mapVal] at h
  split at h
  · cases h
  · rename_i hne
    split at h
    · cases h
      refine ⟨rfl, ?_⟩
      intro he; subst he; simp at hne
    · cases h

theorem mapElemTy_mem : ∀ (kvs : List (String × Val)), kvs ≠ [] → ∃ q ∈ kvs, q.2.typeOf = mapElemTy kvs
  | [], h => absurd rfl h
  | (k, v) :: rest, _ => by
    simp only [mapElemTy]
    split
    · rename_i hd
      cases rest with
      | nil => exact ⟨(k, v), by simp, by simpa [mapElemTy] using eq_of_beq hd⟩
      | cons q rest =>
        obtain ⟨q', hq', ht⟩ := mapElemTy_mem (q :: rest) (by simp)
        exact ⟨q', List.mem_cons_of_mem _ hq', ht⟩
    · exact ⟨(k, v), by simp, rfl⟩

theorem mapVal_elem {kvs : List (String × Val)} {v : Val} (h : mapVal kvs = some v) :
    ∃ q ∈ kvs, v.typeOf = .map q.2.typeOf := by
  obtain ⟨hty, hne⟩ := mapVal_typeOf h
  obtain ⟨q, hq, ht⟩ := mapElemTy_mem kvs hne
  exact ⟨q, hq, ht ▸ hty⟩

theorem mapVal_conforms {T : Ty} {kvs : List (String × Val)} {v : Val} (h : mapVal kvs = some v)
    (hall : ∀ q ∈ kvs, conforms q.2.typeOf T = true) : conforms v.typeOf (.map T) = true := by
  obtain ⟨q, hq, ht⟩ := mapVal_elem h
  rw [ht]
  exact hall q hq

theorem mem_foldl_insertSorted {α β : Type} (f : β → String × α) :
    ∀ (l : List β) (acc : List (String × α)) (q : String × α),
      q ∈ l.foldl (fun acc p => insertSorted (f p).1 (f p).2 acc) acc → q ∈ acc ∨ ∃ p ∈ l, q = f p
  | [], acc, q, h => Or.inl h
  | p :: l, acc, q, h => by
    simp only [List.foldl_cons] at h
    rcases mem_foldl_insertSorted f l _ q h with h | ⟨p', hp', rfl⟩
    · rcases mem_insertSorted _ _ _ _ h with rfl | h
      · exact Or.inr ⟨p, by simp, rfl⟩
      · exact Or.inl h
    · exact Or.inr ⟨p', List.mem_cons_of_mem _ hp', rfl⟩

theorem mtVals_flat {T : Ty} : ∀ (kids : List (String × MTree)) (vs : List (String × Val)),
    (∀ p ∈ kids, ∃ v, p.2 = .leaf v ∧ v.typeOf = T) → mtVals kids = some vs → ∀ q ∈ vs, q.2.typeOf = T
  | [], vs, _, h => by
    simp only [mtVals, Option.some.injEq] at h
    subst h; simp
  | (k, t) :: kids, vs, hk, h => by
    obtain ⟨v, hv, hty⟩ := hk (k, t) (by simp)
    simp only at hv; subst hv
    simp only [mtVals, mtVal] at h
    split at h
    · rename_i v' vs' hv' hvs'
      cases hv'
      cases h
      intro q hq
      rcases List.mem_cons.mp hq with rfl | hq
      · exact hty
      · exact mtVals_flat kids vs' (fun p hp => hk p (List.mem_cons_of_mem _ hp)) hvs' q hq
    · cases h

theorem mtVal_flat {T : Ty} {t : MTree} {v : Val} (h : Flat T t) (hv : mtVal t = some v) :
    v.typeOf = .map T := by
  obtain ⟨kids, rfl, hk⟩ := h
  simp only [mtVal] at hv
  split at hv
  · rename_i vs hvs
    obtain ⟨q, hq, ht⟩ := mapVal_elem hv
    rw [ht, mtVals_flat kids vs hk hvs q hq]
  · cases hv

theorem good_attr (name : String) (ty : Ty) (req : Bool) : Good (.attr name ty req) := by
  intro attrs blocks labels v err h
  rw [decode.eq_3] at h
  split at h
  · cases h; exact conforms_refl _
  · split at h
    · rename_i hc
      cases h; exact convert_conforms _ _ _ hc
    · cases h; exact conforms_refl _

theorem good_block {type : String} {nested : Spec} {req : Bool} (H : Good nested) : Good (.block type nested req) := by
  intro attrs blocks labels v err h
  rw [decode.eq_5] at h
  split at h
  · cases h; exact conforms_refl _
  · split at h
    · rename_i hv
      cases h; exact H _ _ _ _ _ hv
    · cases h

theorem good_blockList {type : String} {nested : Spec} {min max : Nat} (hd : hasDyn (impliedType nested) = false)
    (H : Good nested) : Good (.blockList type nested min max) := by
  intro attrs blocks labels v err h
  rw [decode.eq_6] at h
  split at h
  · cases h
  · rename_i elems e hb
    have hty : ∀ w ∈ elems, w.typeOf = impliedType nested := fun w hw' =>
      conforms_eq _ _ (decodeBlocks_conf nested H _ _ _ _ hb w hw') hd
    simp only at h
    split at h
    · cases h; exact conforms_refl _
    · rename_i v1 vs
      have h1 := hty v1 (by simp)
      have : (vs.all fun w => w.typeOf == v1.typeOf) = true := by
        rw [List.all_eq_true]
        intro w hw'
        rw [hty w (by simp [hw']), h1]; exact beq_self_eq_true _
      rw [if_pos this] at h
      cases h
      simp only [typeOf, h1]; exact conforms_refl _

theorem good_blockMap {type : String} {nested : Spec} (hd : hasDyn (impliedType nested) = false) (H : Good nested) :
    Good (.blockMap type 1 nested) := by
  intro attrs blocks labels v err h
  rw [decode.eq_8, if_neg (by simp [hd]), if_neg (by simp)] at h
  split at h
  · cases h
  · cases h; exact conforms_refl _
  · rename_i t e hne hm
    have hflat := decodeMap_flat nested H hd _ _ _ _ _ ⟨[], rfl, by simp⟩ hm
    split at h
    · rename_i v' hv'
      cases h
      rw [mtVal_flat hflat hv']; exact conforms_refl _
    · cases h

theorem good_blockAttrs (type : String) (ety : Ty) (req : Bool) : Good (.blockAttrs type ety req) := by
  intro attrs blocks labels v err h
  rw [decode.eq_10] at h
  split at h
  · cases h; exact conforms_refl _
  · split at h
    · cases h; exact conforms_refl _
    · simp only at h
      split at h
      · split at h
        · rename_i v' hv'
          cases h
          refine mapVal_conforms hv' ?_
          intro q hq
          rcases mem_foldl_insertSorted (fun p : String × Val × Bool => (p.1, p.2.1)) _ _ q hq with
            hq | ⟨p, hp, rfl⟩
          · simp at hq
          · obtain ⟨a, -, rfl⟩ := List.mem_map.mp hp
            simp only
            split
            · rename_i hc
              exact convert_conforms _ _ _ hc
            · exact conforms_refl _
        · cases h
      · cases h; exact conforms_refl _

theorem good_default {p f : Spec} (he : impliedType p = impliedType f) (Hp : Good p) (Hf : Good f) :
    Good (.default p f) := by
  intro attrs blocks labels v err h
  rw [decode.eq_12] at h
  split at h
  · rename_i v1 e1 h1
    split at h
    · split at h
      · rename_i v2 e2 h2
        cases h
        exact he ▸ Hf _ _ _ _ _ h2
      · cases h
    · cases h
      exact Hp _ _ _ _ _ h1
  · cases h

mutual
theorem decode_good : ∀ (s : Spec), wf s = true → okSpec s = true → Good s
  | .object fields, hw, hok => by
    intro attrs blocks labels v err h
    rw [decode.eq_1] at h
    split at h
    · rename_i kvs e hf
      cases h
      exact decodeFields_good fields hw hok attrs blocks labels kvs _ hf
    · cases h
  | .tuple elems, hw, hok => by
    intro attrs blocks labels v err h
    rw [decode.eq_2] at h
    split at h
    · rename_i vs e hf
      cases h
      exact decodeAll_good elems hw hok attrs blocks labels vs _ hf
    · cases h
  | .attr name ty req, _, _ => good_attr name ty req
  | .literal v0, _, _ => by
    intro attrs blocks labels v err h
    rw [decode.eq_4] at h
    cases h; exact conforms_refl _
  | .block type nested req, hw, hok => good_block (decode_good nested hw hok)
  | .blockList type nested min max, hw, hok => by
    simp only [okSpec, Bool.and_eq_true, Bool.not_eq_true'] at hok
    exact good_blockList hok.1 (decode_good nested hw hok.2)
  | .blockTuple type nested min max, _, _ => fun _ _ _ _ _ _ => conforms_dyn _
  | .blockMap type n nested, hw, hok => by
    simp only [wf, Bool.and_eq_true, Bool.not_eq_true'] at hw
    simp only [okSpec, Bool.and_eq_true, beq_iff_eq] at hok
    obtain ⟨rfl, hok⟩ := hok
    exact good_blockMap hw.1.2 (decode_good nested hw.2 hok)
  | .blockObject type n nested, _, _ => fun _ _ _ _ _ _ => conforms_dyn _
  | .blockAttrs type ety req, _, _ => good_blockAttrs type ety req
  | .blockLabel i, _, _ => by
    intro attrs blocks labels v err h
    rw [decode.eq_11] at h
    split at h
    · cases h; rfl
    · cases h
  | .default p f, hw, hok => by
    simp only [wf, Bool.and_eq_true] at hw
    simp only [okSpec, Bool.and_eq_true] at hok
    exact good_default (eq_of_beq hw.2) (decode_good p hw.1.1 hok.1) (decode_good f hw.1.2 hok.2)
theorem decodeFields_good : ∀ (fields : List (String × Spec)), wfFields fields = true → okFields fields = true →
    ∀ attrs blocks labels kvs err, decodeFields fields attrs blocks labels = some (kvs, err) →
      conformsFields (typeOfFields kvs) (impliedFields fields) = true
  | [], _, _ => by
    intro attrs blocks labels kvs err h
    rw [decodeFields] at h
    cases h; rfl
  | (k, s) :: rest, hw, hok => by
    intro attrs blocks labels kvs err h
    rw [decodeFields] at h
    have hw := Bool.and_eq_true_iff.1 hw
    have hok := Bool.and_eq_true_iff.1 hok
    split at h
    · rename_i v e kvs' e' hv hr
      cases h
      exact Bool.and_eq_true_iff.2 ⟨Bool.and_eq_true_iff.2 ⟨beq_self_eq_true k, decode_good s hw.1 hok.1 _ _ _ _ _ hv⟩,
        decodeFields_good rest hw.2 hok.2 _ _ _ _ _ hr⟩
    · cases h
theorem decodeAll_good : ∀ (elems : List Spec), wfAll elems = true → okAll elems = true →
    ∀ attrs blocks labels vs err, decodeAll elems attrs blocks labels = some (vs, err) →
      conformsAll (typeOfList vs) (impliedAll elems) = true
  | [], _, _ => by
    intro attrs blocks labels vs err h
    rw [decodeAll] at h
    cases h; rfl
  | s :: rest, hw, hok => by
    intro attrs blocks labels vs err h
    rw [decodeAll] at h
    have hw := Bool.and_eq_true_iff.1 hw
    have hok := Bool.and_eq_true_iff.1 hok
    split at h
    · rename_i v e vs' e' hv hr
      cases h
      exact Bool.and_eq_true_iff.2 ⟨decode_good s hw.1 hok.1 _ _ _ _ _ hv, decodeAll_good rest hw.2 hok.2 _ _ _ _ _ hr⟩
    · cases h
end

theorem decode_conforms (s : Spec) (hw : wf s = true) (hok : okSpec s = true)
    (attrs : List DAttr) (blocks : List DBlock) (labels : List String) (v : Val) (err : Bool)
    (h : decode s attrs blocks labels = .ok v err) : conforms v.typeOf (impliedType s) = true :=
  decode_good s hw hok attrs blocks labels v err h

end HclModel.Dec.Proofs
