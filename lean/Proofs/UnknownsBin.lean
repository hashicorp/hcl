import Proofs.UnknownsOps
import Proofs.ValueOperators
/-!
Binary and unary operators (`evalBin`, `evalUn`) without diagnostics: known-in-known-out, result types,
monotonicity for `conc`.
-/
namespace HclModel.Proofs.Unk
open Val

theorem tryConvert_ok_iff {v : Val} {t : Ty} {x : Val} : tryConvert v t = .ok x ↔ convert v t = .ok x := by
  unfold tryConvert
  cases h : convert v t with
  | ok y => simp
  | error e => cases e <;> simp

theorem tryConvert_cases (v : Val) (t : Ty) :
    (∃ x, tryConvert v t = .ok x ∧ convert v t = .ok x) ∨ (∃ d, tryConvert v t = .error d) := by
  unfold tryConvert
  cases h : convert v t with
  | ok y => exact Or.inl ⟨y, rfl, rfl⟩
  | error e => cases e <;> exact Or.inr ⟨_, rfl⟩

theorem shortCircuit_val (op : BinOp) (l r : Val) (ld rd : List Diag) (hl : ld = []) :
    (shortCircuit op l r ld rd).map (·.1) = (shortCircuit op l r [] []).map (·.1) := by
  subst hl; exact shortCircuit_fst op l r rd [] rfl

theorem equalsKnown_null_null {a b : Val} (na : a.isNull = true) (nb : b.isNull = true) :
    equalsKnown a b = .ok (some true) := by
  unfold equalsKnown; simp [na, nb, pure, Except.pure]
theorem equalsKnown_null_known {a b : Val} (na : a.isNull = true) (nb : b.isNull = false) (kb : b.isKnown = true) :
    equalsKnown a b = .ok (some false) := by
  unfold equalsKnown; simp [na, nb, kb, pure, Except.pure]
theorem equalsKnown_known_null {a b : Val} (na : a.isNull = false) (nb : b.isNull = true) (ka : a.isKnown = true) :
    equalsKnown a b = .ok (some false) := by
  unfold equalsKnown; simp [na, nb, ka, pure, Except.pure]
theorem equalsKnown_whollyKnown {a b : Val} (na : a.isNull = false) (nb : b.isNull = false) (wa : whollyKnown a = true)
    (wb : whollyKnown b = true) :
    equalsKnown a b = .ok (some (if a.typeOf == b.typeOf then eqErased a b else false)) := by
  unfold equalsKnown
  simp only [na, nb, isKnown_of_whollyKnown wa, isKnown_of_whollyKnown wb, wa, wb, and_self, if_true]
  split <;> rfl

theorem equalsKnown_known {a b : Val} {o : Option Bool} (ha : whollyKnown a = true) (hb : whollyKnown b = true)
    (h : equalsKnown a b = .ok o) : o.isSome = true := by
  have ka := isKnown_of_whollyKnown ha
  have kb := isKnown_of_whollyKnown hb
  cases na : a.isNull <;> cases nb : b.isNull
  · rw [equalsKnown_whollyKnown na nb ha hb] at h; cases h; rfl
  · rw [equalsKnown_known_null na nb ka] at h; cases h; rfl
  · rw [equalsKnown_null_known na nb kb] at h; cases h; rfl
  · rw [equalsKnown_null_null na nb] at h; cases h; rfl

theorem paramTy_ne_dyn {op : BinOp} (hop : ¬ (op = .eq ∨ op = .ne)) : op.paramTy ≠ .dyn := by
  cases op <;> simp_all [BinOp.paramTy]

theorem binCore_type {op : BinOp} {l r v : Val} (h : binCore op l r = .ok v) :
    typeOf v = op.resultTy ∧ isLeaf v = true := by
  unfold binCore at h
  split at h
  · rename_i w ds hs
    cases h
    obtain ⟨hop, -, hw⟩ := shortCircuit_some hs
    have : op.resultTy = .bool := by rcases hop with rfl | rfl <;> rfl
    rw [this]
    rcases hw with ⟨rfl, -⟩ | ⟨rfl, -⟩ <;> exact ⟨rfl, rfl⟩
  · exact ⟨(callBin_leaf h).2.1, (callBin_leaf h).1⟩

theorem binCore_known {op : BinOp} {l r v : Val} (hl : whollyKnown l = true) (hr : whollyKnown r = true)
    (ht : op.paramTy ≠ .dyn → typeOf l = op.paramTy ∧ typeOf r = op.paramTy)
    (h : binCore op l r = .ok v) : whollyKnown v = true := by
  have kl := isKnown_of_whollyKnown hl
  have kr := isKnown_of_whollyKnown hr
  rw [whollyKnown_leaf (binCore_type h).2]
  unfold binCore at h
  split at h
  · rename_i w ds hs
    cases h
    rcases (shortCircuit_some hs).2.2 with ⟨-, k | k⟩ | ⟨rfl, -⟩
    · rw [kl] at k; cases k
    · rw [kr] at k; cases k
    · rfl
  · by_cases hop : op = .eq ∨ op = .ne
    · rcases callBin_eq_form op hop _ _ _ h with ⟨-, he⟩ | ⟨x, rfl, -⟩
      · cases equalsKnown_known (by rwa [whollyKnown_unmarkDeep]) (by rwa [whollyKnown_unmarkDeep]) he
      · rfl
    · obtain ⟨tl, tr⟩ := ht (paramTy_ne_dyn hop)
      rw [(callBin_ok (not_or.mp hop) h).2.2.2 tl tr, kl, kr]; rfl

/-- a known prim against an unknown / null / known prim of another prim type is never equal -/
theorem equalsKnown_prim_ne {a b : Val} (na : a.isNull = false) (ka : a.isKnown = true)
    (hne : a.typeOf ≠ b.typeOf) (pa : a.typeOf.isPrim = true) (pb : b.typeOf.isPrim = true) :
    equalsKnown a b = .ok (some false) ∧ equalsKnown b a = .ok (some false) := by
  have hd : b.typeOf ≠ .dyn := by intro e; rw [e] at pb; simp [Ty.isPrim] at pb
  have wa := whollyKnown_of_prim ka pa
  by_cases nb : b.isNull = true
  · exact ⟨equalsKnown_known_null na nb ka, equalsKnown_null_known nb na ka⟩
  · simp only [Bool.not_eq_true] at nb
    by_cases kb : b.isKnown = true
    · have wb := whollyKnown_of_prim kb pb
      rw [equalsKnown_whollyKnown na nb wa wb, equalsKnown_whollyKnown nb na wb wa]
      have h1 : (a.typeOf == b.typeOf) = false := by simpa using hne
      have h2 : (b.typeOf == a.typeOf) = false := by simpa using fun e => hne e.symm
      simp [h1, h2]
    · simp only [Bool.not_eq_true] at kb
      constructor <;> unfold equalsKnown <;> simp [na, nb, ka, kb, hd, hne, pa, pb, pure, Except.pure]

/-- a known `k` against an unknown `u`, neither null, in either order: the answer is definite only where the
    types differ and are primitive -/
theorem equalsKnown_mixed {k u : Val} {r : Bool} (nk : k.isNull = false) (nu : u.isNull = false)
    (kk : k.isKnown = true) (ku : u.isKnown = false)
    (h : equalsKnown k u = .ok (some r) ∨ equalsKnown u k = .ok (some r)) :
    r = false ∧ k.typeOf ≠ u.typeOf ∧ k.typeOf.isPrim = true ∧ u.typeOf.isPrim = true := by
  unfold equalsKnown at h
  -- both orders reach the same branch, with `k` and `u` in these roles
  simp only [nk, nu, kk, ku, Bool.false_eq_true, if_false, if_true, or_self] at h
  rcases ite_cases h with ⟨-, h⟩ | ⟨-, h⟩
  · cases h
  rcases ite_cases h with ⟨hne, h⟩ | ⟨-, h⟩
  · rcases ite_cases h with ⟨hp, h⟩ | ⟨-, h⟩ <;> cases h
    exact ⟨rfl, by simpa using hne, hp.1, hp.2⟩
  · rcases ite_cases h with ⟨-, h⟩ | ⟨-, h⟩ <;> cases h

/-- the five ways in which `equalsKnown` gives a definite answer: both null; one null and the other known
    (twice); neither null and both wholly known; neither null and exactly one known -/
theorem equalsKnown_some {a b : Val} {r : Bool} (h : equalsKnown a b = .ok (some r)) :
    (a.isNull = true ∧ b.isNull = true ∧ r = true) ∨
    (a.isNull = true ∧ b.isNull = false ∧ b.isKnown = true ∧ r = false) ∨
    (a.isNull = false ∧ b.isNull = true ∧ a.isKnown = true ∧ r = false) ∨
    (a.isNull = false ∧ b.isNull = false ∧ whollyKnown a = true ∧ whollyKnown b = true ∧
      r = if a.typeOf == b.typeOf then eqErased a b else false) ∨
    (a.isNull = false ∧ b.isNull = false ∧ a.isKnown ≠ b.isKnown ∧
      r = false ∧ a.typeOf ≠ b.typeOf ∧ a.typeOf.isPrim = true ∧ b.typeOf.isPrim = true) := by
  cases na : a.isNull <;> cases nb : b.isNull
  · refine .inr (.inr (.inr ?_))
    cases ka : a.isKnown <;> cases kb : b.isKnown
    · unfold equalsKnown at h
      simp only [na, nb, ka, kb] at h
      cases h
    · obtain ⟨rfl, hne, pb, pa⟩ := equalsKnown_mixed nb na kb ka (.inr h)
      exact .inr ⟨rfl, rfl, Bool.noConfusion, rfl, hne.symm, pa, pb⟩
    · obtain ⟨rfl, hne, pa, pb⟩ := equalsKnown_mixed na nb ka kb (.inl h)
      exact .inr ⟨rfl, rfl, Bool.noConfusion, rfl, hne, pa, pb⟩
    · unfold equalsKnown at h
      simp only [na, nb, ka, kb] at h
      rcases ite_cases h with ⟨hw, h⟩ | ⟨-, h⟩
      · refine .inl ⟨rfl, rfl, hw.1, hw.2, ?_⟩
        rcases ite_cases h with ⟨hte, h⟩ | ⟨hte, h⟩ <;> cases h
        · rw [if_pos hte]
        · rw [if_neg hte]
      · cases h
  · unfold equalsKnown at h
    simp only [na, nb] at h
    rcases ite_cases h with ⟨ka, h⟩ | ⟨-, h⟩ <;> cases h
    exact .inr (.inr (.inl ⟨rfl, rfl, ka, rfl⟩))
  · unfold equalsKnown at h
    simp only [na, nb] at h
    rcases ite_cases h with ⟨kb, h⟩ | ⟨-, h⟩ <;> cases h
    exact .inr (.inl ⟨rfl, rfl, kb, rfl⟩)
  · rw [equalsKnown_null_null na nb] at h
    cases h
    exact .inl ⟨rfl, rfl, rfl⟩

theorem equalsKnown_mono {a b a' b' : Val} {r : Bool} {o : Option Bool} (h1 : conc a' a = true)
    (h2 : conc b' b = true) (ha : equalsKnown a b = .ok (some r)) (hv : equalsKnown a' b' = .ok o) :
    o = some r := by
  suffices hs : equalsKnown a' b' = .ok (some r) by
    rw [hs] at hv; cases hv; rfl
  -- a known primitive value against an unknown one of another primitive type: whatever the unknown one becomes,
  -- it keeps its type
  have mixed : ∀ {a b a' b' : Val}, conc a' a = true → conc b' b = true → a.isNull = false → a.isKnown = true →
      b.isKnown = false → a.typeOf ≠ b.typeOf → a.typeOf.isPrim = true → b.typeOf.isPrim = true →
      equalsKnown a' b' = .ok (some false) ∧ equalsKnown b' a' = .ok (some false) := by
    intro a b a' b' h1 h2 na ka kb hne pa pb
    obtain ⟨ta', -⟩ := conc_whollyKnown h1 (whollyKnown_of_prim ka pa)
    have tb' := typeOf_of_conc_unknown h2 kb fun e => by rw [e] at pb; cases pb
    exact equalsKnown_prim_ne ((conc_isNull h1 ka).trans na) (conc_isKnown h1 ka) (by rw [ta', tb']; exact hne)
      (by rw [ta']; exact pa) (by rw [tb']; exact pb)
  rcases equalsKnown_some ha with ⟨na, nb, rfl⟩ | ⟨na, nb, kb, rfl⟩ | ⟨na, nb, ka, rfl⟩ | ⟨na, nb, wa, wb, rfl⟩ |
    ⟨na, nb, hk, rfl, hne, pa, pb⟩
  · exact equalsKnown_null_null (conc_null_right h1 na) (conc_null_right h2 nb)
  · exact equalsKnown_null_known (conc_null_right h1 na) ((conc_isNull h2 kb).trans nb) (conc_isKnown h2 kb)
  · exact equalsKnown_known_null ((conc_isNull h1 ka).trans na) (conc_null_right h2 nb) (conc_isKnown h1 ka)
  · have ka := isKnown_of_whollyKnown wa
    have kb := isKnown_of_whollyKnown wb
    obtain ⟨ta', wa'⟩ := conc_whollyKnown h1 wa
    obtain ⟨tb', wb'⟩ := conc_whollyKnown h2 wb
    rw [equalsKnown_whollyKnown ((conc_isNull h1 ka).trans na) ((conc_isNull h2 kb).trans nb) wa' wb', ta', tb',
      eqErased_conc h1 wa h2 wb]
  · cases ka : a.isKnown <;> cases kb : b.isKnown
    · exact absurd (ka.trans kb.symm) hk
    · exact (mixed h2 h1 nb kb ka (fun e => hne e.symm) pb pa).2
    · exact (mixed h1 h2 na ka kb hne pa pb).1
    · exact absurd (ka.trans kb.symm) hk

theorem binCore_conc_eq {op : BinOp} (hop : op = .eq ∨ op = .ne) {l r la ra v va : Val}
    (h1 : conc l la = true) (h2 : conc r ra = true)
    (hv : binCore op l r = .ok v) (ha : binCore op la ra = .ok va) : conc v va = true := by
  rw [binCore_eq_callBin hop] at hv ha
  rcases callBin_eq_form op hop _ _ _ ha with ⟨rfl, -⟩ | ⟨x, rfl, hx⟩
  · rcases callBin_eq_form op hop _ _ _ hv with ⟨rfl, -⟩ | ⟨y, rfl, -⟩ <;> simp [conc, typeOf]
  · have c1 : conc l.unmarkDeep la.unmarkDeep = true := by rwa [conc_unmarkDeep]
    have c2 : conc r.unmarkDeep ra.unmarkDeep = true := by rwa [conc_unmarkDeep]
    rcases callBin_eq_form op hop _ _ _ hv with ⟨-, ho⟩ | ⟨y, rfl, ho⟩
    · cases equalsKnown_mono c1 c2 hx ho
    · cases equalsKnown_mono c1 c2 hx ho; simp [conc]

theorem payload_of_conc {v a : Val} (h : conc v a = true) (ha : a.isKnown = true) : payload v = payload a := by
  cases a with
  | unk => cases ha
  | null => obtain ⟨_, rfl⟩ := conc_null_inv h; rfl
  | str => obtain ⟨_, rfl⟩ := conc_str_inv h; rfl
  | num => obtain ⟨_, rfl⟩ := conc_num_inv h; rfl
  | bool => obtain ⟨_, rfl⟩ := conc_bool_inv h; rfl
  | list => obtain ⟨_, _, rfl, -⟩ := conc_list_inv h; rfl
  | map => obtain ⟨_, _, rfl, -⟩ := conc_map_inv h; rfl
  | tuple => obtain ⟨_, _, rfl, -⟩ := conc_tuple_inv h; rfl
  | object => obtain ⟨_, _, rfl, -⟩ := conc_object_inv h; rfl

/-- When both abstract operands are known, the concrete ones have their payloads and the results agree.  Otherwise
    the abstract result is unknown, of the result type, unless a known abstract operand decides it, and then the
    same constant decides the concrete one. -/
theorem binCore_conc_other {op : BinOp} (hop : op ≠ .eq ∧ op ≠ .ne) {l r la ra v va : Val}
    (h1 : conc l la = true) (h2 : conc r ra = true) (tla : typeOf la = op.paramTy) (tra : typeOf ra = op.paramTy)
    (hv : binCore op l r = .ok v) (ha : binCore op la ra = .ok va) : conc v va = true := by
  have unk : va.isKnown = false → conc v va = true := by
    intro k
    have tva := (binCore_type ha).1
    cases va <;> simp [isKnown] at k
    exact conc_of_type ((binCore_type hv).1.trans tva.symm)
  have dec : ∀ {x xa : Val}, conc x xa = true → decides (dominant op) xa = true → decides (dominant op) x = true := by
    intro x xa hc d
    rw [← decides_payload, payload_of_conc hc (isKnown_of_decides d), decides_payload]; exact d
  by_cases hk : la.isKnown = true ∧ ra.isKnown = true
  · rw [binCore_payload hop (payload_of_conc h1 hk.1) (payload_of_conc h2 hk.2) hv ha, conc_setFl_right]
    exact conc_refl v
  · unfold binCore at ha
    split at ha
    · rename_i w ds hs
      cases ha
      obtain ⟨hlog, -, hw⟩ := shortCircuit_some hs
      rcases hw with ⟨rfl, -⟩ | ⟨rfl, hd⟩
      · exact unk rfl
      · obtain ⟨ds', hs'⟩ := shortCircuit_decided hlog [] [] (hd.imp (dec h1) (dec h2))
        unfold binCore at hv
        rw [hs'] at hv; cases hv
        exact conc_refl _
    · apply unk
      rw [(callBin_ok hop ha).2.2.2 tla tra]
      cases k1 : la.isKnown <;> cases k2 : ra.isKnown <;> simp_all

theorem binCore_conc {op : BinOp} {l r la ra v va : Val}
    (h1 : conc l la = true) (h2 : conc r ra = true)
    (ht : op.paramTy ≠ .dyn → typeOf l = op.paramTy ∧ typeOf r = op.paramTy ∧
      typeOf la = op.paramTy ∧ typeOf ra = op.paramTy)
    (hv : binCore op l r = .ok v) (ha : binCore op la ra = .ok va) : conc v va = true := by
  by_cases hop : op = .eq ∨ op = .ne
  · exact binCore_conc_eq hop h1 h2 hv ha
  · obtain ⟨-, -, c, d⟩ := ht (paramTy_ne_dyn hop)
    exact binCore_conc_other (not_or.mp hop) h1 h2 c d hv ha

theorem paramTy_cases (op : BinOp) : op.paramTy = .dyn ∨ op.paramTy.noDyn = true := by
  cases op <;> simp [BinOp.paramTy, Ty.noDyn]

theorem convert_typeOf_param {op : BinOp} {g x : Val} (h : convert g op.paramTy = .ok x)
    (hd : op.paramTy ≠ .dyn) : typeOf x = op.paramTy := by
  rcases paramTy_cases op with h1 | h1
  · exact absurd h1 hd
  · exact ((convert_convP g _ x h).2.2.2 h1).1

theorem evalBin_type {op : BinOp} {lo ro : Out} (h : (evalBin true op lo ro).2 = []) :
    typeOf (evalBin true op lo ro).1 = op.resultTy ∧ wfVal (evalBin true op lo ro).1 = true := by
  obtain ⟨gl, ld⟩ := lo; obtain ⟨gr, rd⟩ := ro
  obtain ⟨_, _, l, r, v, _, _, hv, he⟩ := evalBin_nil h
  rw [he]
  obtain ⟨h1, h2⟩ := binCore_type hv
  exact ⟨by simpa using h1, by simpa using wfVal_leaf h2⟩

theorem evalBin_known {op : BinOp} {lo ro : Out} (h : (evalBin true op lo ro).2 = [])
    (kl : whollyKnown lo.1 = true) (kr : whollyKnown ro.1 = true) :
    whollyKnown (evalBin true op lo ro).1 = true := by
  obtain ⟨gl, ld⟩ := lo; obtain ⟨gr, rd⟩ := ro
  obtain ⟨_, _, l, r, v, hl, hr, hv, he⟩ := evalBin_nil h
  rw [tryConvert_ok_iff] at hl hr
  rw [he]
  dsimp only
  rw [whollyKnown_withFl]
  refine binCore_known ?_ ?_ ?_ hv
  · simpa using (convert_convP gl _ l hl).2.2.1 kl
  · simpa using (convert_convP gr _ r hr).2.2.1 kr
  · intro hd
    simp only [unmark_fst, typeOf_setFl]
    exact ⟨convert_typeOf_param hl hd, convert_typeOf_param hr hd⟩

theorem paramTy_ok (op : BinOp) : op.paramTy.paramOk = true := by
  cases op <;> rfl

theorem evalBin_conc {op : BinOp} {lo ro loa roa : Out} (h : (evalBin true op lo ro).2 = [])
    (ha : (evalBin true op loa roa).2 = []) (cl : conc lo.1 loa.1 = true) (cr : conc ro.1 roa.1 = true) :
    conc (evalBin true op lo ro).1 (evalBin true op loa roa).1 = true := by
  obtain ⟨gl, ld⟩ := lo; obtain ⟨gr, rd⟩ := ro
  obtain ⟨gla, lda⟩ := loa; obtain ⟨gra, rda⟩ := roa
  obtain ⟨_, _, l, r, v, hl, hr, hv, he⟩ := evalBin_nil h
  obtain ⟨_, _, la, ra, va, hla, hra, hva, hea⟩ := evalBin_nil ha
  rw [tryConvert_ok_iff] at hl hr hla hra
  rw [he, hea]
  dsimp only
  rw [conc_withFl]
  refine binCore_conc ?_ ?_ ?_ hv hva
  · simpa using convert_mono cl (paramTy_ok op) hl hla
  · simpa using convert_mono cr (paramTy_ok op) hr hra
  · intro hd
    simp only [unmark_fst, typeOf_setFl]
    exact ⟨convert_typeOf_param hl hd, convert_typeOf_param hr hd, convert_typeOf_param hla hd,
      convert_typeOf_param hra hd⟩

theorem callUn_type {op : UnOp} {a v : Val} (h : callUn op a = .ok v) :
    typeOf v = op.resultTy ∧ isLeaf v = true := by
  obtain ⟨-, ty, sh⟩ := callUn_ok h
  refine ⟨ty, ?_⟩
  rcases sh with ⟨_, -, e⟩ | ⟨_, -, e⟩ | ⟨e, -⟩ <;> rw [e] <;> rfl

theorem callUn_known {op : UnOp} {a v : Val} (ht : typeOf a = op.paramTy) (hk : whollyKnown a = true)
    (h : callUn op a = .ok v) : whollyKnown v = true := by
  rcases (callUn_ok h).2.2 with ⟨_, -, e⟩ | ⟨_, -, e⟩ | ⟨-, k⟩
  · rw [e]; rfl
  · rw [e]; rfl
  · rw [isKnown_of_whollyKnown hk] at k; cases k ht

theorem callUn_conc {op : UnOp} {a aa v va : Val} (hc : conc a aa = true) (hta : typeOf aa = op.paramTy)
    (h : callUn op a = .ok v) (ha : callUn op aa = .ok va) : conc v va = true := by
  have hty := (callUn_type h).1
  obtain ⟨-, -, sh⟩ := callUn_ok h
  rcases (callUn_ok ha).2.2 with ⟨x, ea, eva⟩ | ⟨x, ea, eva⟩ | ⟨eva, -⟩
  · rw [ea] at hc hta
    obtain ⟨f', rfl⟩ := conc_num_inv hc
    rcases sh with ⟨y, e, ev⟩ | ⟨y, e, -⟩ | ⟨-, k⟩
    · cases e; rw [ev, eva]; simp [conc]
    · cases e
    · cases k hta
  · rw [ea] at hc hta
    obtain ⟨f', rfl⟩ := conc_bool_inv hc
    rcases sh with ⟨y, e, -⟩ | ⟨y, e, ev⟩ | ⟨-, k⟩
    · cases e
    · cases e; rw [ev, eva]; simp [conc]
    · cases k hta
  · rw [eva]; exact conc_of_type hty

theorem unParamTy_noDyn (op : UnOp) : op.paramTy.noDyn = true := by cases op <;> rfl

theorem evalUn_type {op : UnOp} {o : Out} (h : (evalUn op o).2 = []) :
    typeOf (evalUn op o).1 = op.resultTy ∧ wfVal (evalUn op o).1 = true := by
  obtain ⟨g, ds⟩ := o
  obtain ⟨_, x, v, _, _, hv, he⟩ := evalUn_nil h
  rw [he]
  exact ⟨(callUn_type hv).1, wfVal_leaf (callUn_type hv).2⟩

theorem evalUn_known {op : UnOp} {o : Out} (h : (evalUn op o).2 = []) (hk : whollyKnown o.1 = true) :
    whollyKnown (evalUn op o).1 = true := by
  obtain ⟨g, ds⟩ := o
  obtain ⟨_, x, v, hx, tx, hv, he⟩ := evalUn_nil h
  rw [he]
  exact callUn_known tx ((convert_convP g _ x (tryConvert_ok_iff.mp hx)).2.2.1 hk) hv

theorem evalUn_conc {op : UnOp} {o oa : Out} (h : (evalUn op o).2 = []) (ha : (evalUn op oa).2 = [])
    (hc : conc o.1 oa.1 = true) : conc (evalUn op o).1 (evalUn op oa).1 = true := by
  obtain ⟨g, ds⟩ := o; obtain ⟨ga, dsa⟩ := oa
  obtain ⟨_, x, v, hx, _, hv, he⟩ := evalUn_nil h
  obtain ⟨_, xa, va, hxa, txa, hva, hea⟩ := evalUn_nil ha
  rw [tryConvert_ok_iff] at hx hxa
  rw [he, hea]
  exact callUn_conc (convert_conc ga g _ x xa hc (unParamTy_noDyn op) hx hxa) txa hv hva

end HclModel.Proofs.Unk
