import Proofs.UnknownsSplat
/-!
# C05 — evaluation with unknown values

`known_in_known_out_partial` and `abs_sound_partial`, for the strict configuration, by mutual structural recursion
over `Expr` (`kiko`, `wf_eval`, `sty_eval`, `conc_eval`).  The unrestricted statements (`AbsSoundFull`,
`KnownInKnownOutFull` in `Props/C05.lean`) are refuted there.
-/
namespace HclModel.Proofs.Unk
open Val

section
variable (F : Funcs) (hS : SoundFuncsS F)
include hS
-- the members of the mutual block reach `hS` only through each other, which the linter does not see
set_option linter.unusedSectionVars false

mutual
theorem conc_eval : ∀ (e : Expr) (ρc ρa : Env), okExpr e = true → concEnv ρc ρa → wfEnv ρc →
    (eval (strictCx F) ρc e).2 = [] → (eval (strictCx F) ρa e).2 = [] →
    conc (eval (strictCx F) ρc e).1 (eval (strictCx F) ρa e).1 = true
  | .lit v => fun ρc ρa _ _ _ _ _ => by rw [eval_lit, eval_lit]; exact conc_refl v
  | .var x => fun ρc ρa _ henv _ hc ha => by
    rw [eval_var] at hc ⊢; rw [eval_var] at ha ⊢
    have := concEnv_lookup henv x
    cases h1 : ρc.lookup x <;> cases h2 : ρa.lookup x <;> simp [h1, h2, errOut] at this hc ha ⊢
    exact this
  | .getAttr e n => fun ρc ρa ho henv hw hc ha => by
    simp only [okExpr] at ho
    rw [eval_getAttr] at hc ⊢; rw [eval_getAttr] at ha ⊢
    obtain ⟨c1, c2⟩ := getAttrOut_nil hc
    obtain ⟨a1, a2⟩ := getAttrOut_nil ha
    simpa [getAttrOut_eq, c1, a1, hasErrors_nil] using
      getAttr_conc (conc_eval e ρc ρa ho henv hw c1 a1) (wf_eval F hS e ρc ho hw c1) c2 a2
  | .index e k => fun ρc ρa ho henv hw hc ha => by
    simp only [okExpr, Bool.and_eq_true] at ho
    rw [eval_index, strict_kk] at hc ⊢; rw [eval_index, strict_kk] at ha ⊢
    obtain ⟨c1, c2, c3⟩ := indexOut_nil hc
    obtain ⟨a1, a2, a3⟩ := indexOut_nil ha
    exact index_conc (conc_eval e ρc ρa ho.1 henv hw c1 a1) (conc_eval k ρc ρa ho.2 henv hw c2 a2)
      (wf_eval F hS e ρc ho.1 hw c1) c3 a3
  | .bin op l r => fun ρc ρa ho henv hw hc ha => by
    simp only [okExpr, Bool.and_eq_true] at ho
    rw [eval_bin, strict_kd] at hc ⊢; rw [eval_bin, strict_kd] at ha ⊢
    have d1 := evalBin_diags hc
    have d2 := evalBin_diags ha
    exact evalBin_conc hc ha (conc_eval l ρc ρa ho.1 henv hw d1.1 d2.1) (conc_eval r ρc ρa ho.2 henv hw d1.2 d2.2)
  | .un op e => fun ρc ρa ho henv hw hc ha => by
    simp only [okExpr] at ho
    rw [eval_un] at hc ⊢; rw [eval_un] at ha ⊢
    exact evalUn_conc hc ha (conc_eval e ρc ρa ho henv hw (evalUn_diags hc) (evalUn_diags ha))
  | .cond c t f => fun ρc ρa ho henv hw hc ha => by
    simp only [okExpr, Bool.and_eq_true] at ho
    obtain ⟨T, hT⟩ := Option.isSome_iff_exists.mp ho.2
    rw [eval_cond] at hc ⊢; rw [eval_cond] at ha ⊢
    simp only [strict_kd] at hc ha ⊢
    obtain ⟨c1, c2, c3, c4⟩ := evalCond_nil hc
    obtain ⟨a1, a2, a3, a4⟩ := evalCond_nil ha
    rw [c4, a4]
    exact evalCondCore_conc (cond_condTy F c t f T ρc hT c2 c3) (cond_condTy F c t f T ρa hT a2 a3)
      (conc_eval c ρc ρa ho.1.1.1 henv hw (evalCondCore_diags c1) (evalCondCore_diags a1))
      (conc_eval t ρc ρa ho.1.1.2 henv hw c2 a2) (conc_eval f ρc ρa ho.1.2 henv hw c3 a3) c1 a1
  | .tuple es => fun ρc ρa ho henv hw hc ha => by
    simp only [okExpr] at ho
    rw [eval_tuple] at hc ⊢; rw [eval_tuple] at ha ⊢
    simpa [conc] using conc_list es ρc ρa ho henv hw hc ha
  | .object items => fun ρc ρa ho henv hw hc ha => by
    simp only [okExpr] at ho
    rw [eval_object, objectOut_eq] at hc ⊢; rw [eval_object, objectOut_eq] at ha ⊢
    have dc : (evalItems (strictCx F) ρc items).1.diags = [] := by split at hc <;> exact hc
    have da : (evalItems (strictCx F) ρa items).1.diags = [] := by split at ha <;> exact ha
    cases hka : (evalItems (strictCx F) ρa items).2
    · simp only [Bool.not_false, if_true]; exact conc_dynVal _
    · obtain ⟨k1, k2⟩ := conc_items items ρc ρa ho henv hw dc da hka
      simp only [k1, Bool.not_true, Bool.false_eq_true, if_false, conc]
      exact concG_headD k2
  | .forTuple kv vv coll val cond => fun ρc ρa ho henv hw hc ha => by
    unfold okExpr at ho
    simp only [Bool.and_eq_true] at ho
    exact conc_forTuple F ρc ρa kv vv coll val cond (conc_eval coll ρc ρa ho.1.1 henv hw)
      (wf_eval F hS coll ρc ho.1.1 hw) (fun ρc' ρa' => conc_eval val ρc' ρa' ho.1.2)
      (conc_opt cond ho.2) henv hw hc ha
  | .forObject kv vv coll key val cond g => fun ρc ρa ho henv hw hc ha => by
    unfold okExpr at ho
    simp only [Bool.and_eq_true] at ho
    exact conc_forObject F ρc ρa kv vv coll key val cond g (conc_eval coll ρc ρa ho.1.1.1 henv hw)
      (wf_eval F hS coll ρc ho.1.1.1 hw) (fun ρc' ρa' => conc_eval key ρc' ρa' ho.1.1.2)
      (fun ρc' ρa' => conc_eval val ρc' ρa' ho.1.2)
      (conc_opt cond ho.2) henv hw hc ha
  | .splat anon src each => fun ρc ρa ho henv hw hc ha => by
    simp only [okExpr, Bool.and_eq_true] at ho
    obtain ⟨T, hT⟩ := Option.isSome_iff_exists.mp ho.2
    exact conc_splat F ρc ρa anon src each T hT (conc_eval src ρc ρa ho.1.1 henv hw)
      (wf_eval F hS src ρc ho.1.1 hw) (fun ρc' ρa' => conc_eval each ρc' ρa' ho.1.2) henv hw hc ha
  | .template parts => fun ρc ρa ho henv hw hc ha => by
    simp only [okExpr] at ho
    exact conc_template F ρc ρa parts (conc_each parts ρc ρa ho henv hw) hc ha
  | .tjoin t => fun ρc ρa ho henv hw hc ha => by
    simp only [okExpr] at ho
    exact conc_tjoin F ρc ρa t (conc_eval t ρc ρa ho henv hw) hc ha
  | .call fn args expand => fun ρc ρa ho henv hw hc ha => by
    unfold okExpr at ho
    simp only [Bool.and_eq_true] at ho
    exact conc_call F hS ρc ρa fn args expand (conc_each args ρc ρa ho.1 henv hw)
      (fun le hle => conc_opt expand ho.2 le hle ρc ρa henv hw) hc ha
/-- the optional part of a `for` expression or of a call -/
theorem conc_opt : ∀ (o : Option Expr), (match o with | none => true | some e => okExpr e) = true →
    ∀ e, o = some e → ConcAt F e
  | none => fun _ _ h => nomatch h
  | some e => fun ho _ h => by cases h; exact fun ρc ρa => conc_eval e ρc ρa ho
theorem conc_list : ∀ (es : List Expr) (ρc ρa : Env), okList es = true → concEnv ρc ρa → wfEnv ρc →
    (evalList (strictCx F) ρc es).2 = [] → (evalList (strictCx F) ρa es).2 = [] →
    concL (evalList (strictCx F) ρc es).1 (evalList (strictCx F) ρa es).1 = true
  | [] => fun _ _ _ _ _ _ _ => by simp [evalList, concL]
  | e :: es => fun ρc ρa ho henv hw hc ha => by
    simp only [okList, Bool.and_eq_true] at ho
    simp only [evalList, List.append_eq_nil_iff] at hc ha ⊢
    simp only [concL, Bool.and_eq_true]
    exact ⟨conc_eval e ρc ρa ho.1 henv hw hc.1 ha.1, conc_list es ρc ρa ho.2 henv hw hc.2 ha.2⟩
theorem conc_each : ∀ (es : List Expr) (ρc ρa : Env), okList es = true → concEnv ρc ρa → wfEnv ρc →
    All2 RelOut (evalEach (strictCx F) ρc es) (evalEach (strictCx F) ρa es)
  | [] => fun _ _ _ _ _ => by simp only [evalEach]; exact All2.nil
  | e :: es => fun ρc ρa ho henv hw => by
    simp only [okList, Bool.and_eq_true] at ho
    simp only [evalEach]
    exact All2.cons (conc_eval e ρc ρa ho.1 henv hw) (conc_each es ρc ρa ho.2 henv hw)
theorem conc_items : ∀ (items : List (Expr × Expr)) (ρc ρa : Env), okItems items = true → concEnv ρc ρa →
    wfEnv ρc → (evalItems (strictCx F) ρc items).1.diags = [] → (evalItems (strictCx F) ρa items).1.diags = [] →
    (evalItems (strictCx F) ρa items).2 = true →
      (evalItems (strictCx F) ρc items).2 = true ∧
        All2 GRel (evalItems (strictCx F) ρc items).1.kvs (evalItems (strictCx F) ρa items).1.kvs
  | [] => fun _ _ _ _ _ _ _ _ => by simp [evalItems]; exact All2.nil
  | (ke, ve) :: rest => fun ρc ρa ho henv hw hc ha hk => by
    simp only [okItems, Bool.and_eq_true] at ho
    exact conc_items_step F ρc ρa ke ve rest (conc_eval ke ρc ρa ho.1.1 henv hw) (conc_eval ve ρc ρa ho.1.2 henv hw)
      (conc_items rest ρc ρa ho.2 henv hw) hc ha hk
end
end

end HclModel.Proofs.Unk

namespace HclModel.Proofs

/-- Known in, known out: with a scope and literals free of unknown values (and every `tjoin` applied to a
    tuple-forming expression, as the template parser does), an evaluation without diagnostics in the strict
    configuration yields a wholly known value. -/
theorem known_in_known_out_partial (F : Funcs) (hF : SoundFuncs F) (e : Expr) (ρ : Env)
    (ho : knownOk e = true) (hk : knownEnv ρ) (h : (eval (strictCx F) ρ e).2 = []) :
    Val.whollyKnown (eval (strictCx F) ρ e).1 = true :=
  Unk.kiko F hF e ρ ho hk h

/-- Abstraction soundness for the fragment `okExpr`: if the abstract evaluation and a concrete instantiation
    (with well-typed values) are both free of diagnostics in the strict configuration, the concrete result is
    consistent with the abstract one. -/
theorem abs_sound_partial (F : Funcs) (hS : SoundFuncsS F) (e : Expr) (ρc ρa : Env) (ho : okExpr e = true)
    (h : concEnv ρc ρa) (hw : wfEnv ρc)
    (hc : (eval (strictCx F) ρc e).2 = []) (ha : (eval (strictCx F) ρa e).2 = []) :
    conc (eval (strictCx F) ρc e).1 (eval (strictCx F) ρa e).1 = true :=
  Unk.conc_eval F hS e ρc ρa ho h hw hc ha

/-- evaluation preserves well-typedness of collection values -/
theorem eval_wf (F : Funcs) (hS : SoundFuncsS F) (e : Expr) (ρ : Env) (ho : okExpr e = true) (hw : wfEnv ρ)
    (h : (eval (strictCx F) ρ e).2 = []) : wfVal (eval (strictCx F) ρ e).1 = true :=
  Unk.wf_eval F hS e ρ ho hw h

/-- the static type of an expression is the type of its value (in every scope) -/
theorem staticTy_sound (F : Funcs) (e : Expr) (T : Ty) (ρ : Env) (hT : staticTy e = some T)
    (h : (eval (strictCx F) ρ e).2 = []) : Val.typeOf (eval (strictCx F) ρ e).1 = T :=
  Unk.sty_eval F e T ρ hT h

end HclModel.Proofs
