import Proofs.MarksOps
import Proofs.EvalStepLemmas
import Proofs.ValueAccess
/-!
Two-run lemmas for `getAttr` and `index` (C06): related inputs, no diagnostics in either run, hence related
outputs.  Collections marked in both runs yield marked results (`Access.marked`).  Otherwise they agree at the top
(`relC`), so both runs are in the same case of the equations of `ValueAccess`, and look up the same element
(`found_rel`) unless the keys are marked in both runs.
-/
namespace HclModel.Proofs
open Val

def shapeEq (a b : Val) : Prop := a.isKnown = b.isKnown ∧ (a.typeOf == .dyn) = (b.typeOf == .dyn)

theorem found_rel {o o' : Option Val} (f g : Fl) (site : String)
    (ho : (o = none ∧ o' = none) ∨ ∃ x y, o = some x ∧ o' = some y ∧ relV x y = true)
    (h1 : (found o f site).2 = []) : relV (found o f site).1 (found o' g site).1 = true := by
  rcases ho with ⟨rfl, rfl⟩ | ⟨x, y, rfl, rfl, hxy⟩
  · cases h1
  · exact relV_withFl hxy f g

theorem getAttr_rel (v v' : Val) (name : String) (h : relV v v' = true)
    (h1 : (getAttr v name).2 = []) (h2 : (getAttr v' name).2 = []) :
    relV (getAttr v name).1 (getAttr v' name).1 = true := by
  rcases relV_cases h with ⟨m1, m2⟩ | hc
  · exact relV_top (getAttr_marked v name m1 h1) (getAttr_marked v' name m2 h2)
  cases relC_view hc with
  | unk f g t =>
    -- both runs read the type of the result off `t`
    rw [getAttr_unk] at h1 ⊢
    rw [getAttr_unk]
    cases t with
    | object fs =>
      cases hl : lookupKey name fs <;> simp only [hl] at h1 ⊢
      · cases h1
      · simp [relV]
    | map u => simp [relV]
    | dyn => exact relV_withFl (relV_refl Val.dynVal) f g
    | _ => cases h1
  | map f g t hl =>
    rw [getAttr_map] at h1 ⊢
    rw [getAttr_map]
    exact found_rel _ _ _ (relF_lookup hl name) h1
  | object f g hl =>
    rw [getAttr_object] at h1 ⊢
    rw [getAttr_object]
    exact found_rel _ _ _ (relF_lookup hl name) h1
  | null | str | num | bool | list | tuple => cases h1

theorem getAttrOut_rel (o o' : Out) (name : String) (h : relV o.1 o'.1 = true)
    (h1 : (getAttrOut o name).2 = []) (h2 : (getAttrOut o' name).2 = []) :
    relV (getAttrOut o name).1 (getAttrOut o' name).1 = true := by
  obtain ⟨v, ds⟩ := o
  obtain ⟨v', ds'⟩ := o'
  obtain ⟨rfl, h1⟩ := getAttrOut_nil h1
  obtain ⟨rfl, h2⟩ := getAttrOut_nil h2
  simpa [getAttrOut, hasErrors] using getAttr_rel v v' name h h1 h2

theorem elemAt_rel {xs ys : List Val} {q q' : Rat} {f g : Fl} (hl : relL xs ys = true)
    (h : q = q' ∨ (f.m = true ∧ g.m = true)) (h1 : (elemAt xs q f).2 = []) (h2 : (elemAt ys q' g).2 = []) :
    relV (elemAt xs q f).1 (elemAt ys q' g).1 = true := by
  obtain ⟨i, x, hi, _, e⟩ := elemAt_ok h1
  obtain ⟨i', y, hi', _, e'⟩ := elemAt_ok h2
  rcases h with rfl | ⟨hf, hg⟩
  · cases hi.symm.trans hi'
    rw [elemAt_eq hi] at h1 ⊢
    rw [elemAt_eq hi]
    exact found_rel _ _ _ (relL_getElem? hl i) h1
  · rw [e, e']
    exact relV_withFl_top x y hf hg

theorem unkTupleAt_rel (ts : List Ty) {q q' : Rat} {f g : Fl} (h : q = q' ∨ (f.m = true ∧ g.m = true))
    (h1 : (unkTupleAt ts q f).2 = []) (h2 : (unkTupleAt ts q' g).2 = []) :
    relV (unkTupleAt ts q f).1 (unkTupleAt ts q' g).1 = true := by
  obtain ⟨i, t, hi, ht, e⟩ := unkTupleAt_ok h1
  obtain ⟨i', t', hi', ht', e'⟩ := unkTupleAt_ok h2
  rw [e, e']
  rcases h with rfl | ⟨hf, hg⟩
  · cases hi.symm.trans hi'
    cases ht.symm.trans ht'
    simp [relV]
  · exact relV_top hf hg

theorem indexUnk_rel {coll coll' : Val} (hc : relC coll coll' = true) :
    relV (indexUnk coll).1 (indexUnk coll').1 = true := by
  have same : ∀ {a b : Val}, a.typeOf = b.typeOf → relV (indexUnk a).1 (indexUnk b).1 = true := by
    intro a b h
    unfold indexUnk
    rw [h]
    split
    · exact relV_withFl (relV_refl Val.dynVal) _ _
    · simp [relV]
    · simp [relV]
    · exact relV_refl _
  -- `indexUnk` reads the type and the flags only, and related collections differ in type only where they are
  -- tuples or objects
  cases relC_view hc with
  | tuple => exact relV_withFl (relV_refl Val.dynVal) _ _
  | object => exact relV_refl _
  | _ => exact same rfl

/-- the converted keys of the two runs -/
inductive KeyPair : Val → Val → Prop
  | num (f f' : Fl) (q q' : Rat) (h : q = q' ∨ (f.m = true ∧ f'.m = true)) : KeyPair (.num f q) (.num f' q')
  | str (f f' : Fl) (s s' : String) (h : s = s' ∨ (f.m = true ∧ f'.m = true)) : KeyPair (.str f s) (.str f' s')
  | unk (f f' : Fl) (t : Ty) : KeyPair (.unk f t) (.unk f' t)

theorem indexSeq_rel (coll coll' k2 k2' : Val) (hc : relC coll coll' = true) (hk : KeyPair k2 k2')
    (h1 : (indexSeq coll k2).2 = []) (h2 : (indexSeq coll' k2').2 = []) :
    relV (indexSeq coll k2).1 (indexSeq coll' k2').1 = true := by
  have join : ∀ {c c' f f' : Fl}, f.m = true ∧ f'.m = true → (c.join f).m = true ∧ (c'.join f').m = true :=
    fun h => by simp [h]
  cases hk with
  | num f f' q q' h =>
    rw [indexSeq_num] at h1 h2 ⊢
    rw [indexSeq_num]
    cases relC_view hc with
    | list _ _ _ hl => exact elemAt_rel hl (h.imp_right join) h1 h2
    | tuple _ _ hl => exact elemAt_rel hl (h.imp_right join) h1 h2
    | unk _ _ t =>
      cases t with
      | tuple ts => exact unkTupleAt_rel ts (h.imp_right join) h1 h2
      | _ => exact indexUnk_rel hc
    | _ => exact indexUnk_rel hc
  | str f f' s s' h =>
    rw [indexSeq_str] at h1 h2 ⊢
    rw [indexSeq_str]
    cases relC_view hc with
    | map _ _ _ hl =>
      rcases h with rfl | h
      · exact found_rel _ _ _ (relF_lookup hl _) h1
      · exact relV_top (found_marked (by simp [h.1]) h1) (found_marked (by simp [h.2]) h2)
    | _ => exact indexUnk_rel hc
  | unk f f' t =>
    rw [indexSeq_unk, indexSeq_unk]
    exact indexUnk_rel hc

theorem indexObj_rel (coll coll' k2 k2' : Val) (fs fs' : List (String × Ty)) (hc : relC coll coll' = true)
    (hn : coll.isNull = false) (hfs : coll.typeOf = .object fs) (hfs' : coll'.typeOf = .object fs')
    (hk : KeyPair k2 k2') (h1 : (indexObj true coll fs k2).2 = []) (h2 : (indexObj true coll' fs' k2').2 = []) :
    relV (indexObj true coll fs k2).1 (indexObj true coll' fs' k2').1 = true := by
  cases hk with
  | num | unk => exact relV_withFl (relV_refl Val.dynVal) _ _
  | str f f' s s' h =>
    rcases h with rfl | h
    · cases relC_view hc with
      | unk f1 f2 t =>
        cases hfs; cases hfs'
        rw [indexObj_unk] at h1 ⊢
        rw [indexObj_unk]
        cases hl : lookupKey s fs <;> simp only [hl] at h1 ⊢
        · cases h1
        · simp [relV]
      | null => cases hn
      | object f1 f2 hl =>
        cases hfs; cases hfs'
        rw [indexObj_object] at h1 ⊢
        rw [indexObj_object]
        exact found_rel _ _ _ (relF_lookup hl s) h1
      | str | num | bool | list | tuple | map => cases hfs
    · -- both keys are marked, and the strict `index` keeps the marks of the key
      exact relV_top
        ((indexObj_str_access (K := fun g => g.m = true) true coll fs f s (by simp [h.1])).marked h1)
        ((indexObj_str_access (K := fun g => g.m = true) true coll' fs' f' s' (by simp [h.2])).marked h2)

theorem relC_typeOf_dyn {a b : Val} (h : relC a b = true) : (a.typeOf == Ty.dyn) = (b.typeOf == Ty.dyn) := by
  cases relC_view h <;> rfl

theorem shapeEq_of_relC {a b : Val} (h : relC a b = true) : shapeEq a b :=
  ⟨relC_isKnown h, relC_typeOf_dyn h⟩

theorem keyPair_of {key key' k2 k2' : Val} {want : Ty} (hw : want = .num ∨ want = .str)
    (hk : relV key key' = true) (hs : key.isKnown = key'.isKnown)
    (hn : key.isNull = false) (hn' : key'.isNull = false)
    (c1 : tryConvert key want = .ok k2) (c2 : tryConvert key' want = .ok k2') : KeyPair k2 k2' := by
  have r := tryConvert_rel hk c1 c2
  rw [← tryConvert_isKnown c1, ← tryConvert_isKnown c2] at hs
  -- both converted keys are of the wanted type or unknown, and both alike since known alike
  rcases hw with rfl | rfl
  · rcases convert_num_cases _ _ (tryConvert_ok c1) hn with ⟨q, rfl⟩ | rfl <;>
    rcases convert_num_cases _ _ (tryConvert_ok c2) hn' with ⟨q', rfl⟩ | rfl
    · refine .num _ _ _ _ ?_
      simp [relV] at r ⊢; rcases r with r | r <;> simp [r]
    · simp [isKnown] at hs
    · simp [isKnown] at hs
    · exact .unk _ _ _
  · rcases convert_str_cases _ _ (tryConvert_ok c1) hn with ⟨q, rfl⟩ | rfl <;>
    rcases convert_str_cases _ _ (tryConvert_ok c2) hn' with ⟨q', rfl⟩ | rfl
    · refine .str _ _ _ _ ?_
      simp [relV] at r ⊢; rcases r with r | r <;> simp [r]
    · simp [isKnown] at hs
    · simp [isKnown] at hs
    · exact .unk _ _ _

theorem relC_keyTy {a b : Val} (h : relC a b = true) : keyTy a.typeOf = keyTy b.typeOf := by
  cases relC_view h <;> rfl

theorem indexAt_rel (coll coll' k2 k2' : Val) (hc : relC coll coll' = true) (hn : coll.isNull = false)
    (hk : KeyPair k2 k2') (h1 : (indexAt true coll k2).2 = []) (h2 : (indexAt true coll' k2').2 = []) :
    relV (indexAt true coll k2).1 (indexAt true coll' k2').1 = true := by
  -- the collections have the same constructor, so both runs take the same branch
  cases relC_view hc with
  | unk f g t =>
    cases t with
    | object fs => exact indexObj_rel _ _ _ _ _ _ hc hn rfl rfl hk h1 h2
    | _ => exact indexSeq_rel _ _ _ _ hc hk h1 h2
  | null => cases hn
  | object => exact indexObj_rel _ _ _ _ _ _ hc hn rfl rfl hk h1 h2
  | _ => exact indexSeq_rel _ _ _ _ hc hk h1 h2

theorem index_rel (coll coll' key key' : Val) (hc : relV coll coll' = true) (hk : relV key key' = true)
    (hs : shapeEq key key') (h1 : (index true coll key).2 = []) (h2 : (index true coll' key').2 = []) :
    relV (index true coll key).1 (index true coll' key').1 = true := by
  rcases relV_cases hc with ⟨m1, m2⟩ | hc
  · exact relV_top (index_coll_marked _ _ _ m1 h1) (index_coll_marked _ _ _ m2 h2)
  obtain ⟨nc, nk⟩ := index_null_diag h1
  obtain ⟨nc', nk'⟩ := index_null_diag h2
  have hd' := or_congr (Bool.eq_iff_iff.mp hs.2) (Bool.eq_iff_iff.mp (relC_typeOf_dyn hc))
  simp only [beq_iff_eq] at hd'
  by_cases hd : key.typeOf = Ty.dyn ∨ coll.typeOf = Ty.dyn
  · rw [index_dyn nc nk hd, index_dyn nc' nk' (hd'.mp hd)]
    exact relV_withFl (relV_refl Val.dynVal) _ _
  -- after the key conversion, to the same type in both runs, the two runs hold a `KeyPair`
  obtain ⟨want, k, hw, c, e⟩ := index_at h1 hd
  obtain ⟨want', k', hw', c', e'⟩ := index_at h2 (mt hd'.mpr hd)
  cases hw.symm.trans ((relC_keyTy hc).trans hw')
  rw [e] at h1 ⊢; rw [e'] at h2 ⊢
  exact indexAt_rel _ _ _ _ hc nc (keyPair_of (keyTy_cases hw) hk hs.1 nk nk' c c') h1 h2

theorem indexOut_rel (co co' ko ko' : Out) (hc : relV co.1 co'.1 = true) (hk : relV ko.1 ko'.1 = true)
    (hs : shapeEq ko.1 ko'.1) (h1 : (indexOut true co ko).2 = []) (h2 : (indexOut true co' ko').2 = []) :
    relV (indexOut true co ko).1 (indexOut true co' ko').1 = true := by
  have a := indexOut_nil h1
  have b := indexOut_nil h2
  obtain ⟨cv, cd⟩ := co
  obtain ⟨kv, kd⟩ := ko
  obtain ⟨cv', cd'⟩ := co'
  obtain ⟨kv', kd'⟩ := ko'
  exact index_rel _ _ _ _ hc hk hs a.2.2 b.2.2

end HclModel.Proofs
