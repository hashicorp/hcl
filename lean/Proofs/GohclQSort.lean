import Batteries.Tactic.OpenPrivate
/-!
`Array.qsort` returns a permutation of its input: every step of `qpartition` and `qsort.sort` is a `Vector.swap`.
`impliedSchema` sorts with it, and `Proofs/GohclSchema.lean` needs only that sorting keeps the members (`mem_qsort`).
The two loops are private definitions of core; they are opened for the inductions that follow them.
-/
namespace HclModel.Gohcl.Proofs
open Vector
open private Array.qsort.sort Array.qpartition.loop from Init.Data.Array.QSort.Basic

theorem qpartition_loop_perm {α : Type} {n : Nat} (lt : α → α → Bool) (lo hi : Nat) (hhi : hi < n) (pivot : α)
    (as : Vector α n) (i k : Nat) (ilo : lo ≤ i) (ik : i ≤ k) (w : k ≤ hi) :
    (Array.qpartition.loop lt lo hi hhi pivot as i k ilo ik w).2 ~ as := by
  fun_induction Array.qpartition.loop lt lo hi hhi pivot as i k ilo ik w with
  | case1 as i k ilo ik w h hlt ih => exact ih.trans (swap_perm _ _)
  | case2 as i k ilo ik w h hlt ih => exact ih
  | case3 as i k ilo ik w h => exact swap_perm (by omega) (by omega)

theorem ite_swap_perm {α : Type} {n : Nat} (c : Bool) (as : Vector α n) (i j : Nat) (hi : i < n) (hj : j < n) :
    (if c then as.swap i j hi hj else as) ~ as := by
  cases c
  · exact .rfl
  · exact swap_perm hi hj

/-- three conditional swaps (median of three), then the loop -/
theorem qpartition_perm {α : Type} {n : Nat} (as : Vector α n) (lt : α → α → Bool) (lo hi : Nat)
    (w : lo ≤ hi) (hlo : lo < n) (hhi : hi < n) :
    (Array.qpartition as lt lo hi w hlo hhi).2 ~ as :=
  (qpartition_loop_perm ..).trans ((ite_swap_perm ..).trans ((ite_swap_perm ..).trans (ite_swap_perm ..)))

theorem qsort_sort_perm {α : Type} {n : Nat} (lt : α → α → Bool) (as : Vector α n) (lo hi : Nat)
    (w : lo ≤ hi) (hlo : lo < n) (hhi : hi < n) :
    Array.qsort.sort lt as lo hi w hlo hhi ~ as := by
  fun_induction Array.qsort.sort lt as lo hi w hlo hhi with
  | case1 as lo hi w hlo hhi h₁ mid hmid as' heq h₂ =>
    have := qpartition_perm as lt lo hi w hlo hhi
    rw [heq] at this
    exact this
  | case2 as lo hi w hlo hhi h₁ mid hmid as' heq h₂ ih1 _ ih3 =>
    have := qpartition_perm as lt lo hi w hlo hhi
    rw [heq] at this
    exact ih3.trans (ih1.trans this)
  | case3 as lo hi w hlo hhi h₁ => exact .rfl

theorem qsort_perm {α : Type} (as : Array α) (lt : α → α → Bool) (lo hi : Nat) :
    (as.qsort lt lo hi).toList.Perm as.toList := by
  unfold Array.qsort
  split
  · exact .refl _
  · exact Array.perm_iff_toList_perm.1 (qsort_sort_perm lt as.toVector ..).toArray

theorem mem_qsort {α : Type} (as : Array α) (lt : α → α → Bool) (x : α) :
    x ∈ (as.qsort lt).toList ↔ x ∈ as.toList := (qsort_perm as lt _ _).mem_iff

end HclModel.Gohcl.Proofs
