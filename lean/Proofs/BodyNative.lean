import HclModel.Body.Native
import Proofs.ListLemmas
/-!
Schema processing of a native body (`NBody.partialContent` / `NBody.content`, `HclModel/Body/Native.lean`) through
closed forms of its two folds, in any hidden-name state; the C04 theorems of `Props/C04.lean` are the fresh-body cases.
-/
namespace HclModel.Body.Proofs
open HclModel.Body
variable {α β : Type}

/-- the `step` closure of `partialContent` (one schema attribute), as a top-level function -/
def astep (attrs : List (String × α)) (acc : List (String × α) × List String × List ErrKind) (as : AttrSchema) :
    List (String × α) × List String × List ErrKind :=
  match findAttr as.name attrs with
  | some a =>
    if acc.2.1.contains as.name then
      (acc.1, acc.2.1, if as.required then acc.2.2 ++ [.missingRequired as.name] else acc.2.2)
    else (acc.1 ++ [(as.name, a)], as.name :: acc.2.1, acc.2.2)
  | none => (acc.1, acc.2.1, if as.required then acc.2.2 ++ [.missingRequired as.name] else acc.2.2)

/-- the `bstep` closure of `partialContent` (one block of the body), as a top-level function -/
def bstep (hidden : List String) (s : Schema) (acc : List (Block β) × List ErrKind) (blk : Block β) :
    List (Block β) × List ErrKind :=
  if hidden.contains blk.type then (acc.1, acc.2)
  else match wanted s blk.type with
    | none => (acc.1, acc.2)
    | some bs =>
      if blk.labels.length > bs.labelCount then (acc.1, acc.2 ++ [.extraneousLabel blk.type])
      else if blk.labels.length < bs.labelCount then (acc.1, acc.2 ++ [.missingLabel blk.type])
      else (acc.1 ++ [blk], acc.2)

def hideBlocks (h : List String) (l : List BlockSchema) : List String :=
  l.foldl (fun h bs => bs.type :: h) h

theorem partialContent_eq (b : NBody α β) (s : Schema) :
    b.partialContent s =
      (⟨(s.attrs.foldl (astep b.attrs) ([], b.hiddenAttrs, [])).1,
        (b.blocks.foldl (bstep b.hiddenBlocks s) ([], [])).1⟩,
       { b with hiddenAttrs := (s.attrs.foldl (astep b.attrs) ([], b.hiddenAttrs, [])).2.1,
                hiddenBlocks := hideBlocks b.hiddenBlocks s.blocks },
       (s.attrs.foldl (astep b.attrs) ([], b.hiddenAttrs, [])).2.2 ++
        (b.blocks.foldl (bstep b.hiddenBlocks s) ([], [])).2) := by
  rfl

theorem filterMap_cons_toList {γ δ : Type} (f : γ → Option δ) (a : γ) (l : List γ) :
    (a :: l).filterMap f = (f a).toList ++ l.filterMap f := by
  rw [List.filterMap_cons]; cases f a <;> rfl

theorem findAttr_cons (n m : String) (a : α) (l : List (String × α)) :
    findAttr n ((m, a) :: l) = if m = n then some a else findAttr n l := by
  simp [findAttr]

theorem findAttr_isSome_iff (n : String) (attrs : List (String × α)) :
    (findAttr n attrs).isSome ↔ ∃ p ∈ attrs, p.1 = n := by
  induction attrs with
  | nil => simp [findAttr]
  | cons p rest ih =>
    rw [findAttr_cons]
    split <;> simp [*]

theorem findAttr_isSome_of_mem {attrs : List (String × α)} {p : String × α} (h : p ∈ attrs) :
    (findAttr p.1 attrs).isSome := (findAttr_isSome_iff _ _).2 ⟨p, h, rfl⟩

theorem findAttr_eq_none_iff (n : String) (l : List (String × α)) :
    findAttr n l = none ↔ ∀ p ∈ l, p.1 ≠ n := by
  rw [← Option.not_isSome_iff_eq_none, findAttr_isSome_iff]; simp only [not_exists, not_and, ne_eq]

theorem findAttr_append (n : String) (l₁ l₂ : List (String × α)) :
    findAttr n (l₁ ++ l₂) = (findAttr n l₁).or (findAttr n l₂) := by
  induction l₁ with
  | nil => simp [findAttr]
  | cons p l ih =>
    rw [List.cons_append, findAttr_cons, findAttr_cons]
    split <;> simp [*]

theorem findAttr_mem {n : String} {l : List (String × α)} {a : α} (h : findAttr n l = some a) : (n, a) ∈ l := by
  induction l with
  | nil => simp [findAttr] at h
  | cons p l ih =>
    obtain ⟨m, a'⟩ := p
    rw [findAttr_cons] at h
    split at h
    · simp_all
    · simp [ih h]

theorem findAttr_map {γ : Type} (f : α → γ) (n : String) (l : List (String × α)) :
    findAttr n (l.map fun p => (p.1, f p.2)) = (findAttr n l).map f := by
  induction l with
  | nil => rfl
  | cons p rest ih =>
    obtain ⟨m, a⟩ := p
    simp only [List.map_cons, findAttr]
    split <;> simp [ih]

theorem findAttr_filter (P : String → Bool) (n : String) (l : List (String × α)) :
    findAttr n (l.filter fun p => P p.1) = if P n then findAttr n l else none := by
  induction l with
  | nil => simp [findAttr]
  | cons p rest ih =>
    obtain ⟨k, v⟩ := p
    by_cases e : k = n
    · subst e
      cases hk : P k <;> simp [hk, findAttr, ih]
    · have hkn : (k == n) = false := beq_false_of_ne e
      cases hk : P k <;> simp [hk, findAttr, hkn, ih]

/-- what the schema entry `as` takes from the body while the names in `hidden` are hidden -/
def pick (attrs : List (String × α)) (hidden : List String) (as : AttrSchema) : Option (String × α) :=
  if as.name ∈ hidden then none else (findAttr as.name attrs).map fun a => (as.name, a)

/-- the missing-required error of the schema entry `as` -/
def areq (attrs : List (String × α)) (hidden : List String) (as : AttrSchema) : Option ErrKind :=
  if as.required = true ∧ (pick attrs hidden as).isNone then some (.missingRequired as.name) else none

theorem astep_eq (attrs : List (String × α)) (acc : List (String × α) × List String × List ErrKind)
    (as : AttrSchema) :
    astep attrs acc as =
      (acc.1 ++ (pick attrs acc.2.1 as).toList, (pick attrs acc.2.1 as).toList.map (·.1) ++ acc.2.1,
       acc.2.2 ++ (areq attrs acc.2.1 as).toList) := by
  unfold astep areq pick
  cases findAttr as.name attrs <;> by_cases hh : as.name ∈ acc.2.1 <;> by_cases hr : as.required = true <;>
    simp [hh, hr]

theorem afold_acc (attrs : List (String × α)) (l : List AttrSchema)
    (acc : List (String × α) × List String × List ErrKind) :
    l.foldl (astep attrs) acc =
      (acc.1 ++ (l.foldl (astep attrs) ([], acc.2.1, [])).1, (l.foldl (astep attrs) ([], acc.2.1, [])).2.1,
       acc.2.2 ++ (l.foldl (astep attrs) ([], acc.2.1, [])).2.2) := by
  induction l generalizing acc with
  | nil => simp
  | cons as l ih =>
    simp only [List.foldl_cons]
    rw [ih (astep attrs acc as), ih (astep attrs ([], acc.2.1, []) as)]
    simp only [astep_eq, List.nil_append, List.append_assoc]

theorem mem_pick_names (attrs : List (String × α)) (h : List String) (as : AttrSchema) (x : String) :
    x ∈ (pick attrs h as).toList.map (·.1) ↔ as.name = x ∧ x ∉ h ∧ (findAttr x attrs).isSome := by
  unfold pick
  by_cases hh : as.name ∈ h
  · simp only [if_pos hh, Option.toList_none, List.map_nil, List.not_mem_nil, false_iff]
    rintro ⟨rfl, hx, _⟩; exact hx hh
  · cases hf : findAttr as.name attrs with
    | none => simp only [if_neg hh, Option.map_none, Option.toList_none, List.map_nil, List.not_mem_nil, false_iff]
              rintro ⟨rfl, _, h'⟩; simp [hf] at h'
    | some a =>
      simp only [if_neg hh, Option.map_some, Option.toList_some, List.map_cons, List.map_nil, List.mem_singleton]
      constructor
      · rintro rfl; simp [hh, hf]
      · rintro ⟨rfl, _⟩; rfl

theorem pick_eq_some {attrs : List (String × α)} {h : List String} {as : AttrSchema} {p : String × α}
    (e : pick attrs h as = some p) : p.1 = as.name ∧ as.name ∉ h ∧ findAttr p.1 attrs = some p.2 := by
  unfold pick at e
  split at e
  · cases e
  · cases hf : findAttr as.name attrs with
    | none => simp [hf] at e
    | some a => simp [hf] at e; subst e; exact ⟨rfl, ‹_›, hf⟩

theorem astep_hidden_mem (attrs : List (String × α)) (l : List AttrSchema)
    (acc : List (String × α) × List String × List ErrKind) (x : String) :
    x ∈ (l.foldl (astep attrs) acc).2.1 ↔
      x ∈ acc.2.1 ∨ ∃ as ∈ l, as.name = x ∧ (findAttr x attrs).isSome := by
  induction l generalizing acc with
  | nil => simp
  | cons as l ih =>
    rw [List.foldl_cons, ih, astep_eq]
    simp only [List.mem_append, mem_pick_names, List.mem_cons, exists_eq_or_imp]
    by_cases hx : x ∈ acc.2.1 <;> simp [hx]

theorem pick_congr {attrs : List (String × α)} {h h' : List String} {as : AttrSchema}
    (e : as.name ∈ h ↔ as.name ∈ h') : pick attrs h as = pick attrs h' as := by
  simp only [pick, e]

theorem afold_eq (attrs : List (String × α)) (l : List AttrSchema)
    (acc : List (String × α) × List String × List ErrKind) (hnd : (l.map (·.name)).Nodup) :
    l.foldl (astep attrs) acc =
      (acc.1 ++ l.filterMap (pick attrs acc.2.1),
       ((l.filterMap (pick attrs acc.2.1)).map (·.1)).reverse ++ acc.2.1,
       acc.2.2 ++ l.filterMap (areq attrs acc.2.1)) := by
  induction l generalizing acc with
  | nil => simp
  | cons as l ih =>
    rw [List.map_cons, List.nodup_cons] at hnd
    have hp : ∀ as' ∈ l, pick attrs (astep attrs acc as).2.1 as' = pick attrs acc.2.1 as' := by
      intro as' h'
      apply pick_congr
      have : as.name ≠ as'.name := fun e => hnd.1 (e ▸ List.mem_map_of_mem h')
      rw [astep_eq]
      simp [mem_pick_names, this]
    rw [List.foldl_cons, ih _ hnd.2, filterMap_congr' hp,
      filterMap_congr' (g := areq attrs acc.2.1) (fun as' h' => by simp only [areq, hp as' h']), astep_eq]
    cases hq : pick attrs acc.2.1 as <;> simp [filterMap_cons_toList, hq]

theorem findAttr_pick (attrs : List (String × α)) (h : List String) (as : AttrSchema) (n : String) :
    findAttr n (pick attrs h as).toList = if as.name = n ∧ n ∉ h then findAttr n attrs else none := by
  unfold pick
  by_cases hh : as.name ∈ h
  · rw [if_pos hh, if_neg]
    · rfl
    · rintro ⟨rfl, h'⟩; exact h' hh
  · rw [if_neg hh]
    by_cases e : as.name = n
    · subst e; cases hf : findAttr as.name attrs <;> simp [hh, findAttr]
    · cases findAttr as.name attrs <;> simp [e, findAttr]

theorem afold_find (attrs : List (String × α)) (l : List AttrSchema)
    (acc : List (String × α) × List String × List ErrKind) (n : String) :
    findAttr n (l.foldl (astep attrs) acc).1 =
      (findAttr n acc.1).or (if n ∉ acc.2.1 ∧ (∃ as ∈ l, as.name = n) then findAttr n attrs else none) := by
  induction l generalizing acc with
  | nil => simp
  | cons as l ih =>
    rw [List.foldl_cons, ih, astep_eq]
    simp only [findAttr_append, findAttr_pick, List.mem_append, mem_pick_names, List.mem_cons, exists_eq_or_imp]
    by_cases hn : n ∈ acc.2.1
    · simp [hn]
    · by_cases e : as.name = n
      · cases findAttr n attrs <;> simp [hn, e]
      · simp [hn, e]

/-- invariant of the attribute fold: what was returned so far has distinct names, all of them hidden, each with
    the body's own value -/
def ainv (attrs : List (String × α)) (acc : List (String × α) × List String × List ErrKind) : Prop :=
  (acc.1.map (·.1)).Nodup ∧ ∀ p ∈ acc.1, p.1 ∈ acc.2.1 ∧ findAttr p.1 attrs = some p.2

theorem afold_ainv (attrs : List (String × α)) (l : List AttrSchema)
    (acc : List (String × α) × List String × List ErrKind) (h : ainv attrs acc) :
    ainv attrs (l.foldl (astep attrs) acc) := by
  induction l generalizing acc with
  | nil => exact h
  | cons as l ih =>
    refine ih _ ?_
    rw [astep_eq]
    cases hq : pick attrs acc.2.1 as with
    | none => simpa [ainv] using h
    | some q =>
      obtain ⟨e, hh, hf⟩ := pick_eq_some hq
      refine ⟨?_, ?_⟩
      · simp only [Option.toList_some, List.map_append, List.map_cons, List.map_nil]
        rw [List.nodup_append]
        refine ⟨h.1, by simp, ?_⟩
        intro x hx y hy exy
        obtain ⟨p, hp, rfl⟩ := List.mem_map.1 hx
        rw [List.mem_singleton.1 hy, e] at exy
        exact hh (exy ▸ (h.2 p hp).1)
      · intro p hp
        rcases List.mem_append.1 hp with hp | hp
        · exact ⟨List.mem_append_right _ (h.2 p hp).1, (h.2 p hp).2⟩
        · cases List.mem_singleton.1 hp
          exact ⟨by simp, hf⟩

theorem afold_relax_errs (attrs : List (String × α)) (l : List AttrSchema)
    (acc : List (String × α) × List String × List ErrKind) (hl : ∀ as ∈ l, as.required = false) :
    (l.foldl (astep attrs) acc).2.2 = acc.2.2 := by
  induction l generalizing acc with
  | nil => rfl
  | cons as l ih =>
    rw [List.foldl_cons, ih _ (fun as' h' => hl as' (by simp [h'])), astep_eq]
    simp [areq, hl as (by simp)]

/-- a block returned by `partialContent` -/
def bgood (hidden : List String) (s : Schema) (blk : Block β) : Bool :=
  !hidden.contains blk.type &&
    match wanted s blk.type with
    | some bs => blk.labels.length == bs.labelCount
    | none => false

def labelErr (blk : Block β) (bs : BlockSchema) : Option ErrKind :=
  if blk.labels.length > bs.labelCount then some (.extraneousLabel blk.type)
  else if blk.labels.length < bs.labelCount then some (.missingLabel blk.type)
  else none

/-- the schema entry that processing applies to blocks of type `ty` while the types in `hidden` are hidden -/
def look (hidden : List String) (s : Schema) (ty : String) : Option BlockSchema :=
  if ty ∈ hidden then none else wanted s ty

/-- the error `partialContent` reports for one block -/
def berr (hidden : List String) (s : Schema) (blk : Block β) : Option ErrKind :=
  (look hidden s blk.type).bind (labelErr blk)

theorem bgood_eq_look (hidden : List String) (s : Schema) (blk : Block β) :
    bgood hidden s blk = (look hidden s blk.type).any fun bs => blk.labels.length == bs.labelCount := by
  unfold bgood look
  by_cases hh : blk.type ∈ hidden <;> cases wanted s blk.type <;> simp [hh]

theorem labelErr_eq_none_iff (blk : Block β) (bs : BlockSchema) :
    labelErr blk bs = none ↔ blk.labels.length = bs.labelCount := by
  unfold labelErr
  split
  · simp; omega
  · split
    · simp; omega
    · simp; omega

theorem bstep_eq (hidden : List String) (s : Schema) (acc : List (Block β) × List ErrKind) (blk : Block β) :
    bstep hidden s acc blk =
      (acc.1 ++ (if bgood hidden s blk then [blk] else []), acc.2 ++ (berr hidden s blk).toList) := by
  by_cases hh : blk.type ∈ hidden
  · simp [bstep, bgood, berr, look, hh]
  · cases hw : wanted s blk.type with
    | none => simp [bstep, bgood, berr, look, hh, hw]
    | some bs =>
      rcases Nat.lt_trichotomy blk.labels.length bs.labelCount with h | h | h
      · have : ¬ bs.labelCount < blk.labels.length := by omega
        have : ¬ blk.labels.length = bs.labelCount := by omega
        simp [bstep, bgood, berr, look, labelErr, *]
      · simp [bstep, bgood, berr, look, labelErr, hh, hw, h]
      · have : ¬ blk.labels.length = bs.labelCount := by omega
        simp [bstep, bgood, berr, look, labelErr, *]

theorem bstep_fold (hidden : List String) (s : Schema) (l : List (Block β))
    (acc : List (Block β) × List ErrKind) :
    l.foldl (bstep hidden s) acc = (acc.1 ++ l.filter (bgood hidden s), acc.2 ++ l.filterMap (berr hidden s)) := by
  induction l generalizing acc with
  | nil => simp
  | cons blk l ih =>
    rw [List.foldl_cons, ih, bstep_eq, List.filter_cons, filterMap_cons_toList]
    split <;> simp

theorem berr_eq_none_iff (hidden : List String) (s : Schema) (blk : Block β) :
    berr hidden s blk = none ↔
      (blk.type ∈ hidden ∨ wanted s blk.type = none ∨
        ∃ bs, wanted s blk.type = some bs ∧ blk.labels.length = bs.labelCount) := by
  unfold berr look
  by_cases hh : blk.type ∈ hidden
  · simp [hh]
  · cases wanted s blk.type <;> simp [hh, labelErr_eq_none_iff]

theorem mem_hideBlocks (h : List String) (l : List BlockSchema) (x : String) :
    x ∈ hideBlocks h l ↔ x ∈ h ∨ ∃ bs ∈ l, bs.type = x := by
  unfold hideBlocks
  induction l generalizing h with
  | nil => simp
  | cons bs l ih =>
    rw [List.foldl_cons, ih]
    simp only [List.mem_cons, exists_eq_or_imp, eq_comm (a := x), or_assoc, or_left_comm (a := bs.type = x)]

theorem hideBlocks_append (h : List String) (l₁ l₂ : List BlockSchema) :
    hideBlocks h (l₁ ++ l₂) = hideBlocks (hideBlocks h l₁) l₂ := List.foldl_append

theorem wanted_eq_none_iff (s : Schema) (ty : String) :
    wanted s ty = none ↔ ∀ bs ∈ s.blocks, bs.type ≠ ty := by
  simp [wanted]

theorem wanted_some {s : Schema} {ty : String} {bs : BlockSchema} (h : wanted s ty = some bs) :
    bs ∈ s.blocks ∧ bs.type = ty := by
  unfold wanted at h
  have h1 := List.mem_of_find?_eq_some h
  have h2 := List.find?_some h
  simp at h1 h2
  exact ⟨h1, h2⟩

theorem wanted_isSome (s : Schema) (ty : String) : (wanted s ty).isSome = s.blocks.any (·.type == ty) := by
  rw [wanted, Bool.eq_iff_iff, List.find?_isSome, List.any_eq_true]
  simp only [List.mem_reverse]

theorem wanted_isSome_iff (s : Schema) (ty : String) :
    (∃ bs, wanted s ty = some bs) ↔ ∃ bs ∈ s.blocks, bs.type = ty := by
  rw [← Option.isSome_iff_exists, wanted_isSome, List.any_eq_true]
  simp only [beq_iff_eq]

/-- the last entry of a block type wins; with distinct types that is the only one -/
theorem wanted_eq_find? (s : Schema) (ty : String) (h : (s.blocks.map (·.type)).Nodup) :
    wanted s ty = s.blocks.find? (fun b => b.type == ty) :=
  find?_reverse_of_nodup (fun b : BlockSchema => b.type) ty s.blocks h

theorem union_attrs (s₁ s₂ : Schema) : (s₁.union s₂).attrs = s₁.attrs ++ s₂.attrs := rfl
theorem union_blocks (s₁ s₂ : Schema) : (s₁.union s₂).blocks = s₁.blocks ++ s₂.blocks := rfl

theorem wanted_union (s₁ s₂ : Schema) (ty : String) :
    wanted (s₁.union s₂) ty = (wanted s₂ ty).or (wanted s₁ ty) := by
  simp [wanted, Schema.union, List.reverse_append, List.find?_append]

theorem wanted_union_named {s₁ s₂ : Schema} (hd : ∀ bs ∈ s₁.blocks, ∀ bs' ∈ s₂.blocks, bs.type ≠ bs'.type)
    {ty : String} (h : ∃ bs ∈ s₁.blocks, bs.type = ty) : wanted (s₁.union s₂) ty = wanted s₁ ty := by
  have : wanted s₂ ty = none := by
    rw [wanted_eq_none_iff]
    intro bs' hbs' e
    obtain ⟨bs, hbs, e'⟩ := h
    exact hd bs hbs bs' hbs' (e'.trans e.symm)
  simp [wanted_union, this]

theorem wanted_union_right {s₁ s₂ : Schema} {ty : String}
    (h : ¬ ∃ bs ∈ s₁.blocks, bs.type = ty) : wanted (s₁.union s₂) ty = wanted s₂ ty := by
  have : wanted s₁ ty = none := by
    rw [wanted_eq_none_iff]
    intro bs hbs e
    exact h ⟨bs, hbs, e⟩
  simp [wanted_union, this]

section general
variable (b : NBody α β) (s : Schema)

theorem remain_attrs : (b.partialContent s).2.1.attrs = b.attrs := rfl
theorem remain_blocks : (b.partialContent s).2.1.blocks = b.blocks := rfl

theorem mem_remain_hiddenAttrs (x : String) :
    x ∈ (b.partialContent s).2.1.hiddenAttrs ↔
      x ∈ b.hiddenAttrs ∨ ∃ as ∈ s.attrs, as.name = x ∧ (findAttr x b.attrs).isSome :=
  astep_hidden_mem _ _ _ _

theorem mem_remain_hiddenBlocks (x : String) :
    x ∈ (b.partialContent s).2.1.hiddenBlocks ↔ x ∈ b.hiddenBlocks ∨ ∃ bs ∈ s.blocks, bs.type = x :=
  mem_hideBlocks _ _ _

theorem partial_blocks :
    (b.partialContent s).1.blocks = b.blocks.filter (bgood b.hiddenBlocks s) := by
  rw [partialContent_eq, bstep_fold]; rfl

theorem partial_attrs (hnd : (s.attrs.map (·.name)).Nodup) (hdis : ∀ as ∈ s.attrs, as.name ∉ b.hiddenAttrs) :
    (b.partialContent s).1.attrs =
      s.attrs.filterMap (fun as => (findAttr as.name b.attrs).map fun a => (as.name, a)) := by
  rw [partialContent_eq, afold_eq _ _ _ hnd]
  exact filterMap_congr' fun as h => if_neg (hdis as h)

theorem ainv_init : ainv b.attrs (([] : List (String × α)), b.hiddenAttrs, ([] : List ErrKind)) := by
  simp [ainv]

theorem partial_find (n : String) :
    findAttr n (b.partialContent s).1.attrs =
      if n ∉ b.hiddenAttrs ∧ (∃ as ∈ s.attrs, as.name = n) then findAttr n b.attrs else none := by
  rw [partialContent_eq]
  simpa [findAttr] using afold_find b.attrs s.attrs ([], b.hiddenAttrs, []) n

theorem partial_attrs_nodup : ((b.partialContent s).1.attrs.map (·.1)).Nodup := by
  rw [partialContent_eq]; exact (afold_ainv b.attrs s.attrs _ (ainv_init b)).1

theorem partial_attrs_sub : ∀ p ∈ (b.partialContent s).1.attrs, p ∈ b.attrs := by
  rw [partialContent_eq]
  intro p hp
  exact findAttr_mem ((afold_ainv b.attrs s.attrs _ (ainv_init b)).2 p hp).2

theorem partial_errs_nil_iff (hnd : (s.attrs.map (·.name)).Nodup)
    (hdis : ∀ as ∈ s.attrs, as.name ∉ b.hiddenAttrs) :
    (b.partialContent s).2.2 = [] ↔
      (∀ as ∈ s.attrs, as.required = true → (findAttr as.name b.attrs).isSome) ∧
      (∀ blk ∈ b.blocks, blk.type ∈ b.hiddenBlocks ∨ wanted s blk.type = none ∨
        ∃ bs, wanted s blk.type = some bs ∧ blk.labels.length = bs.labelCount) := by
  rw [partialContent_eq, afold_eq _ _ _ hnd, bstep_fold]
  simp only [List.nil_append, List.append_eq_nil_iff, List.filterMap_eq_nil_iff, berr_eq_none_iff]
  refine and_congr (forall₂_congr fun as h => ?_) Iff.rfl
  simp [areq, pick, hdis as h, Option.isSome_iff_ne_none]

end general

theorem partial_remain_hidden (b : NBody α β) (s : Schema) :
    (b.partialContent s).2.1.visibleAttrs =
      b.visibleAttrs.filter (fun p => !(s.attrs.any fun as => as.name == p.1)) ∧
    (b.partialContent s).2.1.visibleBlocks =
      b.visibleBlocks.filter (fun blk => !(s.blocks.any fun bs => bs.type == blk.type)) := by
  simp only [NBody.visibleAttrs, NBody.visibleBlocks, remain_attrs, remain_blocks, List.filter_filter]
  constructor
  · apply List.filter_congr
    intro p hp
    rw [Bool.eq_iff_iff]
    simp [mem_remain_hiddenAttrs, findAttr_isSome_of_mem hp]
    exact and_comm
  · apply List.filter_congr
    intro blk _
    rw [Bool.eq_iff_iff]
    simp [mem_remain_hiddenBlocks]
    exact and_comm

theorem partial_remain (b : NBody α β) (s : Schema)
    (hb : b.hiddenAttrs = [] ∧ b.hiddenBlocks = [] ∧ (b.attrs.map (·.1)).Nodup) :
    (b.partialContent s).2.1.visibleAttrs = b.attrs.filter (fun p => !(s.attrs.any fun as => as.name == p.1)) ∧
    (b.partialContent s).2.1.visibleBlocks = b.blocks.filter (fun blk => !(s.blocks.any fun bs => bs.type == blk.type)) := by
  simpa [NBody.visibleAttrs, NBody.visibleBlocks, hb.1, hb.2.1] using partial_remain_hidden b s

/-- With disjoint schemas a block type is handled by exactly one of the two steps: by the first if `s₁` names it or
    it was hidden from the start (then the first step hides it from the second), else by the second. -/
theorem look_union {s₁ s₂ : Schema} (hd : ∀ bs ∈ s₁.blocks, ∀ bs' ∈ s₂.blocks, bs.type ≠ bs'.type)
    (h : List String) (ty : String) :
    (look h (s₁.union s₂) ty = look h s₁ ty ∧ look (hideBlocks h s₁.blocks) s₂ ty = none) ∨
    (look h (s₁.union s₂) ty = look (hideBlocks h s₁.blocks) s₂ ty ∧ look h s₁ ty = none) := by
  unfold look
  by_cases h0 : ty ∈ h
  · simp [h0, mem_hideBlocks]
  · by_cases hty : ∃ bs ∈ s₁.blocks, bs.type = ty
    · simp [h0, mem_hideBlocks, hty, wanted_union_named hd hty]
    · simp [h0, mem_hideBlocks, hty, wanted_union_right hty, (wanted_eq_none_iff s₁ ty).2 fun bs hbs e => hty ⟨bs, hbs, e⟩]

theorem berr_union {s₁ s₂ : Schema} (hd : ∀ bs ∈ s₁.blocks, ∀ bs' ∈ s₂.blocks, bs.type ≠ bs'.type)
    (h : List String) (blk : Block β) :
    berr h (s₁.union s₂) blk = (berr h s₁ blk).or (berr (hideBlocks h s₁.blocks) s₂ blk) := by
  unfold berr
  rcases look_union hd h blk.type with ⟨e, e'⟩ | ⟨e, e'⟩ <;> simp [e, e']

/-- the blocks of one type that are returned depend on the schema only through `look` at that type -/
theorem filter_bgood_type (h : List String) (s : Schema) (l : List (Block β)) (ty : String) :
    (l.filter (bgood h s)).filter (·.type == ty) =
      l.filter fun blk => blk.type == ty && (look h s ty).any fun bs => blk.labels.length == bs.labelCount := by
  rw [List.filter_filter]
  apply List.filter_congr
  intro blk _
  by_cases e : blk.type = ty
  · simp [bgood_eq_look, e]
  · have : (blk.type == ty) = false := by simpa using e
    simp [this]

theorem filter_bgood_union {s₁ s₂ : Schema} (hd : ∀ bs ∈ s₁.blocks, ∀ bs' ∈ s₂.blocks, bs.type ≠ bs'.type)
    (h : List String) (l : List (Block β)) (ty : String) :
    (l.filter (bgood h (s₁.union s₂))).filter (·.type == ty) =
      (l.filter (bgood h s₁) ++ l.filter (bgood (hideBlocks h s₁.blocks) s₂)).filter (·.type == ty) := by
  simp only [List.filter_append, filter_bgood_type]
  rcases look_union hd h ty with ⟨e, e'⟩ | ⟨e, e'⟩ <;> simp [e, e']

/-- Partial processing with `s₁ ∪ s₂` = partial processing with `s₁`, then of the remainder with `s₂`, in any
    hidden-name state; only the blocks need the schemas disjoint (the last entry of a block type wins). -/
theorem partial_union (b : NBody α β) (s₁ s₂ : Schema)
    (hd : ∀ bs ∈ s₁.blocks, ∀ bs' ∈ s₂.blocks, bs.type ≠ bs'.type) :
    let p := b.partialContent s₁
    let q := p.2.1.partialContent s₂
    let u := b.partialContent (s₁.union s₂)
    u.1.attrs = p.1.attrs ++ q.1.attrs ∧
    (∀ ty, u.1.blocks.filter (·.type == ty) = (p.1.blocks ++ q.1.blocks).filter (·.type == ty)) ∧
    u.2.1 = q.2.1 ∧ (u.2.2 = [] ↔ p.2.2 = [] ∧ q.2.2 = []) := by
  -- the attribute fold over `s₁ ++ s₂` is the fold over `s₂` started where that over `s₁` ends
  have hA := afold_acc b.attrs s₂.attrs (s₁.attrs.foldl (astep b.attrs) ([], b.hiddenAttrs, []))
  simp only [partialContent_eq, union_attrs, union_blocks, List.foldl_append, hA, bstep_fold, List.nil_append,
    hideBlocks_append]
  refine ⟨trivial, filter_bgood_union hd _ _, trivial, ?_⟩
  simp only [List.append_eq_nil_iff, List.filterMap_eq_nil_iff, berr_union hd, Option.or_eq_none_iff, forall_and]
  exact and_and_and_comm

theorem content_eq (b : NBody α β) (s : Schema) :
    b.content s =
      ((b.partialContent s).1,
       (b.partialContent s).2.2 ++
        ((b.attrs.filter fun p => !(b.partialContent s).2.1.hiddenAttrs.contains p.1).map
          fun p => ErrKind.unsupportedArgument p.1) ++
        ((b.blocks.filter fun blk => !(b.partialContent s).2.1.hiddenBlocks.contains blk.type).map
          fun blk => ErrKind.unsupportedBlock blk.type)) := by
  rfl

theorem content_fst (b : NBody α β) (s : Schema) : (b.content s).1 = (b.partialContent s).1 := rfl

theorem content_errs_nil_iff (b : NBody α β) (s : Schema) (hnd : (s.attrs.map (·.name)).Nodup)
    (hdis : ∀ as ∈ s.attrs, as.name ∉ b.hiddenAttrs) :
    (b.content s).2 = [] ↔
      (∀ as ∈ s.attrs, as.required = true → (findAttr as.name b.attrs).isSome) ∧
      (∀ blk ∈ b.blocks, blk.type ∈ b.hiddenBlocks ∨
        ∃ bs, wanted s blk.type = some bs ∧ blk.labels.length = bs.labelCount) ∧
      (∀ p ∈ b.attrs, p.1 ∈ b.hiddenAttrs ∨ ∃ as ∈ s.attrs, as.name = p.1) := by
  rw [content_eq]
  simp only [List.append_eq_nil_iff, partial_errs_nil_iff b s hnd hdis, List.map_eq_nil_iff,
    List.filter_eq_nil_iff, and_assoc, Bool.not_eq_true', Bool.not_eq_false, List.contains_iff_mem,
    mem_remain_hiddenAttrs, mem_remain_hiddenBlocks]
  have hC : ∀ p ∈ b.attrs, (∃ as ∈ s.attrs, as.name = p.1 ∧ (findAttr p.1 b.attrs).isSome) ↔
      ∃ as ∈ s.attrs, as.name = p.1 := fun p hp => by simp [findAttr_isSome_of_mem hp]
  -- a block draws neither a label error nor "unsupported" iff it is hidden or the schema wants it as it is
  have hB : ∀ blk : Block β,
      ((blk.type ∈ b.hiddenBlocks ∨ wanted s blk.type = none ∨
          ∃ bs, wanted s blk.type = some bs ∧ blk.labels.length = bs.labelCount) ∧
        (blk.type ∈ b.hiddenBlocks ∨ ∃ bs ∈ s.blocks, bs.type = blk.type) ↔
      blk.type ∈ b.hiddenBlocks ∨ ∃ bs, wanted s blk.type = some bs ∧ blk.labels.length = bs.labelCount) := by
    intro blk
    rw [← or_and_left, ← wanted_isSome_iff]
    refine or_congr_right ⟨?_, fun h => ⟨.inr h, h.imp fun _ => And.left⟩⟩
    rintro ⟨hn | h, bs, hw⟩
    · rw [hn] at hw; cases hw
    · exact h
  constructor
  · rintro ⟨hA, h1, h3, h4⟩
    exact ⟨hA, fun blk hblk => (hB blk).1 ⟨h1 blk hblk, h4 blk hblk⟩,
      fun p hp => (h3 p hp).imp_right (hC p hp).1⟩
  · rintro ⟨hA, h1, h3⟩
    exact ⟨hA, fun blk hblk => ((hB blk).2 (h1 blk hblk)).1, fun p hp => (h3 p hp).imp_right (hC p hp).2,
      fun blk hblk => ((hB blk).2 (h1 blk hblk)).2⟩

theorem content_exact (b : NBody α β) (s : Schema)
    (hb : b.hiddenAttrs = [] ∧ b.hiddenBlocks = [] ∧ (b.attrs.map (·.1)).Nodup)
    (hs : s.nodup) :
    (b.content s).1.attrs = s.attrs.filterMap (fun as => (findAttr as.name b.attrs).map fun a => (as.name, a)) ∧
    (b.content s).1.blocks = b.blocks.filter (fun blk =>
      match wanted s blk.type with
      | some bs => blk.labels.length == bs.labelCount
      | none => false) := by
  rw [content_fst]
  refine ⟨partial_attrs b s hs.1 (by simp [hb.1]), ?_⟩
  rw [partial_blocks, hb.2.1]
  apply List.filter_congr
  intro blk _
  simp [bgood]

/-- `content_error_iff` needs neither distinct attribute names in the body nor distinct block types in the
    schema. -/
theorem content_error_iff_visible (b : NBody α β) (s : Schema) (ha : b.hiddenAttrs = []) (hb : b.hiddenBlocks = [])
    (hs : (s.attrs.map (·.name)).Nodup) :
    (b.content s).2 = [] ↔
      ((∀ as ∈ s.attrs, as.required = true → (findAttr as.name b.attrs).isSome) ∧
       (∀ blk ∈ b.blocks, ∃ bs, wanted s blk.type = some bs ∧ blk.labels.length = bs.labelCount) ∧
       (∀ p ∈ b.attrs, ∃ as ∈ s.attrs, as.name = p.1)) := by
  rw [content_errs_nil_iff b s hs (by simp [ha]), ha, hb]
  simp only [List.not_mem_nil, false_or]

theorem content_error_iff (b : NBody α β) (s : Schema)
    (hb : b.hiddenAttrs = [] ∧ b.hiddenBlocks = [] ∧ (b.attrs.map (·.1)).Nodup)
    (hs : s.nodup) :
    (b.content s).2 = [] ↔
      ((∀ as ∈ s.attrs, as.required = true → (findAttr as.name b.attrs).isSome) ∧
       (∀ blk ∈ b.blocks, ∃ bs, wanted s blk.type = some bs ∧ blk.labels.length = bs.labelCount) ∧
       (∀ p ∈ b.attrs, ∃ as ∈ s.attrs, as.name = p.1)) :=
  content_error_iff_visible b s hb.1 hb.2.1 hs.1

/-- Two steps = one step in any hidden-name state: `content` is `partialContent` plus an error for each item the
    remainder still shows, and the two remainders agree. -/
theorem two_step_hidden (b : NBody α β) (s₁ s₂ : Schema)
    (hd : ∀ bs ∈ s₁.blocks, ∀ bs' ∈ s₂.blocks, bs.type ≠ bs'.type) :
    let p := b.partialContent s₁
    let c₂ := p.2.1.content s₂
    let c := b.content (s₁.union s₂)
    c.1.attrs = p.1.attrs ++ c₂.1.attrs ∧
    (∀ ty, c.1.blocks.filter (·.type == ty) = (p.1.blocks ++ c₂.1.blocks).filter (·.type == ty)) ∧
    (c.2 = [] ↔ (p.2.2 = [] ∧ c₂.2 = [])) := by
  obtain ⟨ha, hb, hr, he⟩ := partial_union b s₁ s₂ hd
  refine ⟨ha, hb, ?_⟩
  simp only [content_eq, hr, remain_attrs, remain_blocks, List.append_eq_nil_iff, he, and_assoc]

-- `hb`, `h₁`, `h₂` and the attribute half of `hd` are carried without need: `two_step_hidden`
set_option linter.unusedVariables false in
theorem two_step (b : NBody α β) (s₁ s₂ : Schema)
    (hb : b.hiddenAttrs = [] ∧ b.hiddenBlocks = [] ∧ (b.attrs.map (·.1)).Nodup)
    (h₁ : s₁.nodup) (h₂ : s₂.nodup) (hd : s₁.disjoint s₂) :
    let p := b.partialContent s₁
    let c₂ := p.2.1.content s₂
    let c := b.content (s₁.union s₂)
    c.1.attrs = p.1.attrs ++ c₂.1.attrs ∧
    (∀ ty, c.1.blocks.filter (·.type == ty) = (p.1.blocks ++ c₂.1.blocks).filter (·.type == ty)) ∧
    (c.2 = [] ↔ (p.2.2 = [] ∧ c₂.2 = [])) :=
  two_step_hidden b s₁ s₂ hd.2

end HclModel.Body.Proofs
