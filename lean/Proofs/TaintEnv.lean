import Proofs.TaintVal
import Proofs.EvalStepLemmas
import Proofs.FreeVars
/-!
C19: scopes (`envOK`) and the elements of a collection.
-/
namespace HclModel.Proofs
open Val

/-- the variables outside `L` expose no taint -/
def envOK (L : List String) (ρ : Env) : Prop :=
  ∀ x v, ρ.lookup x = some v → L.contains x = false → tw false v = true

theorem envOK_of_twEnv {ρ : Env} (h : twEnv ρ) (L : List String) : envOK L ρ := by
  intro x v hl _
  exact h (x, v) (mem_of_lookupKey hl)

theorem envOK_cons_clean {L : List String} {ρ : Env} (x : String) {v : Val} (h : envOK L ρ)
    (hv : tw false v = true) : envOK (L.filter (· != x)) ((x, v) :: ρ) := by
  intro y w hl hy
  rw [lookup_cons] at hl
  split at hl
  · cases hl; exact hv
  · rename_i hne
    apply h y w hl
    cases hc : L.contains y
    · rfl
    · have : (L.filter (· != x)).contains y = true := by
        simp only [List.contains_iff_mem, List.mem_filter, bne_iff_ne, ne_eq] at hc ⊢
        exact ⟨hc, hne⟩
      rw [this] at hy; cases hy

theorem envOK_cons_any {L : List String} {ρ : Env} (x : String) (v : Val) (h : envOK L ρ) :
    envOK (x :: L) ((x, v) :: ρ) := by
  intro y w hl hy
  simp only [List.contains_cons, Bool.or_eq_false_iff, beq_eq_false_iff_ne, ne_eq] at hy
  rw [lookup_cons] at hl
  split at hl
  · rename_i he; exact absurd he hy.1
  · exact h y w hl hy.2

theorem envOK_mono {L L' : List String} {ρ : Env} (h : envOK L ρ) (hs : ∀ x, x ∈ L → x ∈ L') : envOK L' ρ := by
  intro y w hl hy
  apply h y w hl
  cases hc : L.contains y
  · rfl
  · have : L'.contains y = true := by
      simp only [List.contains_iff_mem] at hc ⊢
      exact hs y hc
    rw [this] at hy; cases hy

theorem envOK_bindIter_clean {L : List String} {ρ : Env} (kv vv : String) {k v : Val} (h : envOK L ρ)
    (hk : tw false k = true) (hv : tw false v = true) : envOK (dropIter kv vv L) (bindIter ρ kv vv k v) := by
  unfold bindIter dropIter iterNames
  by_cases hkv : kv = ""
  · simp only [hkv, if_true]
    refine envOK_mono (envOK_cons_clean vv h hv) ?_
    intro x hx
    simp only [List.mem_filter, bne_iff_ne, ne_eq, List.contains_cons, List.contains_nil, Bool.or_false,
      Bool.not_eq_true', beq_eq_false_iff_ne] at hx ⊢
    exact hx
  · simp only [hkv, if_false]
    refine envOK_mono (envOK_cons_clean vv (envOK_cons_clean kv h hk) hv) ?_
    intro x hx
    obtain ⟨hxL, hc⟩ := List.mem_filter.mp hx
    obtain ⟨hxL', hc'⟩ := List.mem_filter.mp hxL
    refine List.mem_filter.mpr ⟨hxL', ?_⟩
    simp only [bne_iff_ne, ne_eq] at hc hc'
    simp [hc, hc']

theorem envOK_bindIter_any {L : List String} {ρ : Env} (kv vv : String) (k v : Val) (h : envOK L ρ) :
    envOK (iterNames kv vv ++ L) (bindIter ρ kv vv k v) := by
  unfold bindIter iterNames
  by_cases hkv : kv = ""
  · simp only [hkv, if_true]
    exact envOK_cons_any vv v h
  · simp only [hkv, if_false]
    exact envOK_cons_any vv v (envOK_cons_any kv k h)

theorem elements_tw {cv : Val} {els : List (Val × Val)} (h : tw false cv = true) (hm : cv.fl.m = false)
    (he : elements cv.unmark.1 = some els) : ∀ p ∈ els, tw false p.1 = true ∧ tw false p.2 = true := by
  have hg : cv.fl.g = false := by
    cases hg : cv.fl.g
    · rfl
    · have := tw_flOK h hg; rw [hm] at this; cases this
  rw [elements_eq] at he
  intro p hp
  -- a key is a leaf with the collection's flags, so it has no guard; an element is `tw (false || m)`, and `m = false`
  cases cv <;> simp only [unmark_fst, setFl, Option.some.injEq] at he <;> (try (cases he; done)) <;> subst he
  all_goals simp only [Val.fl] at hm hg
  · obtain ⟨⟨m, hk⟩, hx⟩ := idxFrom_mem _ _ _ _ hp
    rw [tw_list_eq, Bool.and_eq_true] at h
    refine ⟨by rw [hk]; simp [tw, hg], ?_⟩
    have := twL_mem h.2 _ hx
    simpa [hm] using this
  · obtain ⟨k, hk, hx⟩ := keyed_mem _ _ _ hp
    rw [tw_map_eq, Bool.and_eq_true] at h
    refine ⟨by rw [hk]; simp [tw, hg], ?_⟩
    have := twF_mem h.2 _ hx
    simpa [hm] using this
  · obtain ⟨⟨m, hk⟩, hx⟩ := idxFrom_mem _ _ _ _ hp
    rw [tw_tuple_eq, Bool.and_eq_true] at h
    refine ⟨by rw [hk]; simp [tw, hg], ?_⟩
    have := twL_mem h.2 _ hx
    simpa [hm] using this
  · obtain ⟨k, hk, hx⟩ := keyed_mem _ _ _ hp
    rw [tw_object_eq, Bool.and_eq_true] at h
    refine ⟨by rw [hk]; simp [tw, hg], ?_⟩
    have := twF_mem h.2 _ hx
    simpa [hm] using this

theorem envOK_iter {L : List String} {ρ : Env} {kv vv : String} {cv : Val} {els : List (Val × Val)} {p : Val × Val}
    (hρ : envOK L ρ) (hc : tw false cv = true) (he : elements cv.unmark.1 = some els) (hp : p ∈ els) :
    cv.fl.m = true ∨ envOK (dropIter kv vv L) (bindIter ρ kv vv p.1 p.2) := by
  cases hm : cv.fl.m
  · have hel := elements_tw hc hm he p hp
    exact Or.inr (envOK_bindIter_clean kv vv hρ hel.1 hel.2)
  · exact Or.inl rfl

end HclModel.Proofs
