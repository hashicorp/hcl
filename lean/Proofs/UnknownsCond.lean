import Proofs.UnknownsAccess
/-!
Conditionals, as `evalCondCore` (`evalCond_nil` is the step from `evalCond`): known-in-known-out in general; result
type, well-typedness and monotonicity for `conc` when both results have the same static primitive type.
-/
namespace HclModel.Proofs.Unk
open Val

theorem evalCondCore_known {cv tv fv : Val} {cd td fd : List Diag}
    (h : (evalCondCore (cv, cd) (tv, td) (fv, fd)).2 = [])
    (kc : whollyKnown cv = true) (kt : whollyKnown tv = true) (kf : whollyKnown fv = true) :
    whollyKnown (evalCondCore (cv, cd) (tv, td) (fv, fd)).1 = true := by
  obtain ⟨-, hn, rty, w, -, e, c⟩ := evalCondCore_nil h
  rw [e, whollyKnown_withFl]
  have hk := isKnown_of_whollyKnown kc
  rcases c with ⟨k, -⟩ | ⟨-, f, b, -, -, hw⟩
  · rw [hk] at k; cases k
  · exact (convert_convP _ _ _ (tryConvert_ok_iff.mp hw)).2.2.1 (by cases b <;> simpa)

/-- the two results of a conditional have the primitive type `T` (one of them may be the unmarked `null`) -/
def CondTy (T : Ty) (tv fv : Val) : Prop :=
  T.isPrim = true ∧
  ((typeOf tv = T ∧ typeOf fv = T) ∨ ((∃ fl, tv = .null fl .dyn ∧ fl.m = false) ∧ typeOf fv = T) ∨
   (typeOf tv = T ∧ ∃ fl, fv = .null fl .dyn ∧ fl.m = false))

theorem noDyn_of_prim {T : Ty} (h : T.isPrim = true) : T.noDyn = true := by
  cases T <;> simp_all [Ty.isPrim, Ty.noDyn]

theorem condTy_unify_leaf {T : Ty} {tv fv : Val} (h : CondTy T tv fv) :
    unifyCond tv fv = .ok (some T) ∧ isLeaf tv = true ∧ isLeaf fv = true ∧ T.noDyn = true := by
  obtain ⟨hp, h⟩ := h
  have hT : T ≠ .dyn := by intro e; subst e; simp [Ty.isPrim] at hp
  refine ⟨?_, ?_, ?_, noDyn_of_prim hp⟩
  · have nd : ∀ {v : Val}, v.typeOf = T → ¬ isNullDyn v = true := fun e n => hT (e ▸ typeOf_of_isNullDyn n)
    have dd : ¬ (T == .dyn || T == .dyn) = true := by
      rw [Bool.or_self]; exact fun e => hT (Ty.beq_eq _ _ e)
    rw [unifyCond_eq]
    rcases h with ⟨h1, h2⟩ | ⟨⟨fl, rfl, hm⟩, h2⟩ | ⟨h1, ⟨fl, rfl, hm⟩⟩
    · rw [if_neg (nd h1), if_neg (nd h2), h1, h2, if_neg dd, if_pos (show (T == T) = true from Ty.beq_refl T)]; rfl
    · rw [if_pos (by simp [isNullDyn, hm]), h2]; rfl
    · rw [if_neg (nd h1), if_pos (by simp [isNullDyn, hm]), h1]; rfl
  · rcases h with ⟨h1, _⟩ | ⟨⟨fl, rfl, _⟩, _⟩ | ⟨h1, _⟩
    · exact isLeaf_of_prim (h1 ▸ hp)
    · rfl
    · exact isLeaf_of_prim (h1 ▸ hp)
  · rcases h with ⟨_, h1⟩ | ⟨_, h1⟩ | ⟨_, ⟨fl, rfl, _⟩⟩
    · exact isLeaf_of_prim (h1 ▸ hp)
    · exact isLeaf_of_prim (h1 ▸ hp)
    · rfl

theorem evalCondCore_cases {T : Ty} {cv tv fv : Val} {cd td fd : List Diag} (hT : CondTy T tv fv)
    (h : (evalCondCore (cv, cd) (tv, td) (fv, fd)).2 = []) :
    cv.isNull = false ∧
    ((cv.isKnown = false ∧ tv.isNull = true ∧ fv.isNull = true ∧
        ∃ g, (evalCondCore (cv, cd) (tv, td) (fv, fd)).1 = .null g T) ∨
     (cv.isKnown = false ∧ ¬ (tv.isNull = true ∧ fv.isNull = true) ∧
        ∃ g, (evalCondCore (cv, cd) (tv, td) (fv, fd)).1 = .unk g T) ∨
     (cv.isKnown = true ∧ ∃ f b v' g, convert cv.unmark.1 .bool = .ok (.bool f b) ∧
        convert (if b then tv else fv).unmark.1 T = .ok v' ∧
        (evalCondCore (cv, cd) (tv, td) (fv, fd)).1 = v'.withFl g)) := by
  obtain ⟨hu, ft, ff, _⟩ := condTy_unify_leaf hT
  obtain ⟨-, hn, rty, w, u, e, c⟩ := evalCondCore_nil h
  obtain rfl : rty = T := by rw [hu] at u; cases u; rfl
  refine ⟨hn, ?_⟩
  rw [e]
  rcases c with ⟨k, hw⟩ | ⟨k, f, b, hcb, -, hw⟩
  · rcases condUnknownVal_some hw with ⟨rfl, n1, n2⟩ | ⟨rfl, nn⟩ | ⟨f, t, xs, et, -⟩ | ⟨f, t, xs, et, -⟩
    · exact .inl ⟨k, by simpa using n1, by simpa using n2, _, rfl⟩
    · exact .inr (.inl ⟨k, by simpa using nn, _, rfl⟩)
    · rw [← isLeaf_unmark, et] at ft; cases ft
    · rw [← isLeaf_unmark, et] at ft; cases ft
  · exact .inr (.inr ⟨k, f, b, w, _, tryConvert_ok_iff.mp hcb, tryConvert_ok_iff.mp hw, rfl⟩)

theorem evalCondCore_type {T : Ty} {co to fo : Out} (hT : CondTy T to.1 fo.1)
    (h : (evalCondCore co to fo).2 = []) :
    typeOf (evalCondCore co to fo).1 = T ∧ isLeaf (evalCondCore co to fo).1 = true := by
  obtain ⟨cv, cd⟩ := co; obtain ⟨tv, td⟩ := to; obtain ⟨fv, fd⟩ := fo
  obtain ⟨_, ft, ff, hn⟩ := condTy_unify_leaf hT
  obtain ⟨_, hs⟩ := evalCondCore_cases hT h
  rcases hs with ⟨_, _, _, g, he⟩ | ⟨_, _, g, he⟩ | ⟨_, f, b, v', g, _, hv, he⟩
  · rw [he]; exact ⟨rfl, rfl⟩
  · rw [he]; exact ⟨rfl, rfl⟩
  · rw [he]
    have hfl : isLeaf (if b = true then tv else fv).unmark.1 = true := by
      cases b <;> simp [ft, ff]
    exact ⟨by simpa using ((convert_convP _ _ _ hv).2.2.2 hn).1, by simpa using (convert_leaf hfl hv).1⟩

theorem evalCondCore_conc {T : Ty} {co to fo coa toa foa : Out} (hT : CondTy T to.1 fo.1)
    (hTa : CondTy T toa.1 foa.1) (cc : conc co.1 coa.1 = true) (ct : conc to.1 toa.1 = true)
    (cf : conc fo.1 foa.1 = true)
    (h : (evalCondCore co to fo).2 = []) (ha : (evalCondCore coa toa foa).2 = []) :
    conc (evalCondCore co to fo).1 (evalCondCore coa toa foa).1 = true := by
  have hty := (evalCondCore_type hT h).1
  obtain ⟨cv, cd⟩ := co; obtain ⟨tv, td⟩ := to; obtain ⟨fv, fd⟩ := fo
  obtain ⟨cva, cda⟩ := coa; obtain ⟨tva, tda⟩ := toa; obtain ⟨fva, fda⟩ := foa
  simp only at cc ct cf hT hTa
  obtain ⟨_, _, _, hn⟩ := condTy_unify_leaf hT
  have hTd : T ≠ .dyn := by intro e; subst e; simp [Ty.noDyn] at hn
  obtain ⟨nca, hsa⟩ := evalCondCore_cases hTa ha
  obtain ⟨nc, hs⟩ := evalCondCore_cases hT h
  rcases hsa with ⟨_, nta, nfa, ga, hea⟩ | ⟨_, _, ga, hea⟩ | ⟨ka, fa, ba, va', ga, hcba, hva, hea⟩
  · have nt := conc_null_right ct nta
    have nf := conc_null_right cf nfa
    rw [hea]
    rcases hs with ⟨_, _, _, g, he⟩ | ⟨_, hnn, _⟩ | ⟨_, f, b, v', g, _, hv, he⟩
    · rw [he]; simp [conc]
    · exact absurd ⟨nt, nf⟩ hnn
    · rw [he]
      have : ∃ fl s, (if b = true then tv else fv).unmark.1 = .null fl s := by
        cases b
        · cases fv <;> simp [isNull] at nf; exact ⟨_, _, rfl⟩
        · cases tv <;> simp [isNull] at nt; exact ⟨_, _, rfl⟩
      obtain ⟨fl, s, hb⟩ := this
      rw [hb] at hv
      rcases convert_null_inv hv with ⟨h1, _⟩ | rfl
      · exact absurd h1 hTd
      · simp [withFl, setFl, conc]
  · rw [hea]; exact conc_of_type hty
  · have k := conc_isKnown cc ka
    rcases hs with ⟨k', _⟩ | ⟨k', _⟩ | ⟨_, f, b, v', g, hcb, hv, he⟩
    · rw [k] at k'; cases k'
    · rw [k] at k'; cases k'
    · rw [he, hea, conc_withFl]
      -- the two converted conditions are the same constant, so both runs pick the same branch
      have hb := convert_conc cva.unmark.1 cv.unmark.1 .bool _ _ (by simpa using cc) rfl hcb hcba
      simp only [conc, beq_iff_eq] at hb
      subst hb
      refine convert_conc _ _ T v' va' ?_ hn hv hva
      cases b
      · simpa using cf
      · simpa using ct

end HclModel.Proofs.Unk
