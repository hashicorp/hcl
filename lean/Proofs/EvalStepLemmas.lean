import Proofs.EvalSteps
import Proofs.ValueConvert
/-!
What the step functions of `Proofs/EvalSteps.lean` do, independently of any analysis.  For the loop of a `for`
expression: the order `StLe` on its states (diagnostics are only added, the mark and `known = false` stay), and its
body as a test (`gate`: of the condition, of the key) followed by the body proper (`gated`).  For every construct:
what it returns when it reports no diagnostic, from which it follows that its sub-evaluations reported none.
Names: `f_clean` gives all of what `f` returns when it reports no diagnostic; `f_nil` only that its parts then
reported none (so do `tmplFold_diags` and `probe_diags`); any other `f_diags` says what the diagnostics of `f` are.
-/
namespace HclModel.Proofs
open Val

/-! `getAttrOut`, `indexOut` and `objectOut` here, and `tmplOut` with the lemmas on templates below, take their
arguments apart as pairs; their `_eq` forms rewrite whatever the argument is. -/

theorem getAttrOut_eq (o : Out) (n : String) :
    getAttrOut o n =
      if hasErrors o.2 then (Val.dynVal, o.2) else ((getAttr o.1 n).1, o.2 ++ (getAttr o.1 n).2) := rfl

theorem indexOut_eq (kk : Bool) (co ko : Out) :
    indexOut kk co ko = ((index kk co.1 ko.1).1, co.2 ++ ko.2 ++ (index kk co.1 ko.1).2) := rfl

theorem getAttrOut_nil {o : Out} {name : String} (h : (getAttrOut o name).2 = []) :
    o.2 = [] ∧ (getAttr o.1 name).2 = [] := by
  rw [getAttrOut_eq] at h
  cases ho : o.2 with
  | nil => rw [ho] at h; exact ⟨rfl, by simpa [hasErrors] using h⟩
  | cons d ds => rw [ho] at h; simp [hasErrors] at h

theorem indexOut_nil {kk : Bool} {co ko : Out} (h : (indexOut kk co ko).2 = []) :
    co.2 = [] ∧ ko.2 = [] ∧ (index kk co.1 ko.1).2 = [] := by
  rw [indexOut_eq] at h
  simpa [and_assoc] using h

theorem objectOut_eq (r : ForSt × Bool) :
    objectOut r =
      if !r.2 then (Val.dynVal, r.1.diags)
      else (Val.object r.1.marks (r.1.kvs.map fun (k, vs) => (k, vs.headD Val.dynVal)), r.1.diags) := rfl

theorem objectOut_diags (r : ForSt × Bool) : (objectOut r).2 = r.1.diags := by
  obtain ⟨st, known⟩ := r
  unfold objectOut; simp only []; split <;> rfl

theorem itemStep_clean {ko vo : Out} {r : ForSt × Bool} (h : (itemStep ko vo r).1.diags = []) :
    ko.2 = [] ∧ vo.2 = [] ∧ r.1.diags = [] ∧
    ((ko.1.isKnown = false ∧
        itemStep ko vo r = ({ r.1 with diags := [], marks := r.1.marks.join ko.1.fl }, false)) ∨
      (ko.1.isKnown = true ∧ ∃ s, tryConvert ko.1.unmark.1 .str = .ok (.str ko.1.unmark.1.fl s) ∧
        itemStep ko vo r =
          ({ r.1 with diags := [], marks := r.1.marks.join ko.1.fl,
                      kvs := if (lookupKey s r.1.kvs).isSome then r.1.kvs else groupInsert s vo.1 r.1.kvs }, r.2))) := by
  obtain ⟨k, kd⟩ := ko
  obtain ⟨v, vd⟩ := vo
  obtain ⟨st, known⟩ := r
  unfold itemStep at h ⊢
  simp only [] at h ⊢
  by_cases he : hasErrors kd = true
  · simp only [he, if_true, List.append_eq_nil_iff] at h
    rw [h.1.1] at he; cases he
  simp only [he, Bool.false_eq_true, if_false] at h ⊢
  cases hn : k.isNull
  case true => simp [hn] at h
  simp only [hn, Bool.false_eq_true, if_false, unmark] at h ⊢
  cases c : tryConvert (k.setFl k.fl.unmark) .str with
  | error d => simp [c] at h
  | ok ks =>
    simp only [c] at h ⊢
    have hk := tryConvert_str (by simpa using hn) c
    rw [isKnown_setFl] at hk
    rcases hk with ⟨hk, s, rfl⟩ | ⟨hk, rfl⟩
    · simp only [List.append_eq_nil_iff] at h
      obtain ⟨⟨rfl, rfl⟩, hst⟩ := h
      exact ⟨rfl, rfl, hst, .inr ⟨hk, s, rfl, by simp only [hst, List.append_nil]⟩⟩
    · simp only [List.append_eq_nil_iff] at h
      obtain ⟨⟨rfl, rfl⟩, hst⟩ := h
      exact ⟨rfl, rfl, hst, .inl ⟨hk, by simp only [hst, List.append_nil]⟩⟩

def idxFrom (kf : Fl) : Nat → List Val → List (Val × Val)
  | _, [] => []
  | n, x :: xs => (Val.num kf (n : Rat), x) :: idxFrom kf (n + 1) xs

theorem idx_eq (kf : Fl) (xs : List Val) :
    ((List.range xs.length).zip xs |>.map fun (i, x) => (Val.num kf (i : Rat), x)) = idxFrom kf 0 xs := by
  rw [List.range_eq_range']
  generalize 0 = n
  induction xs generalizing n with
  | nil => simp [idxFrom]
  | cons x xs ih =>
    simp only [List.length_cons, List.range'_succ, List.zip_cons_cons, List.map_cons, idxFrom]
    rw [ih]

def keyed (kf : Fl) (kvs : List (String × Val)) : List (Val × Val) := kvs.map fun (k, x) => (Val.str kf k, x)

theorem elements_eq (v : Val) : elements v =
    match v with
    | .list f _ xs => some (idxFrom ⟨false, f.g⟩ 0 xs)
    | .tuple f xs => some (idxFrom ⟨false, f.g⟩ 0 xs)
    | .map f _ kvs => some (keyed ⟨false, f.g⟩ kvs)
    | .object f kvs => some (keyed ⟨false, f.g⟩ kvs)
    | _ => none := by
  cases v <;> simp [elements, idx_eq, keyed, Val.fl]

/-- `st'` comes later in a loop than `st`: diagnostics are only added; the mark and `known = false` stay -/
structure StLe (st st' : ForSt) : Prop where
  diags : st'.diags = [] → st.diags = []
  marks : st.marks.m = true → st'.marks.m = true
  known : st.known = false → st'.known = false

theorem StLe.refl (st : ForSt) : StLe st st := ⟨id, id, id⟩

theorem StLe.trans {a b c : ForSt} (h : StLe a b) (h' : StLe b c) : StLe a c :=
  ⟨fun x => h.diags (h'.diags x), fun x => h'.marks (h.marks x), fun x => h'.known (h.known x)⟩

theorem StLe.known_of {st st' : ForSt} (h : StLe st st') (hk : st'.known = true) : st.known = true := by
  cases e : st.known
  · rw [h.known e] at hk; cases hk
  · rfl

/-- a failure inside the loop: reported once, while the result is still known -/
def failSt (st : ForSt) (d : Diag) : ForSt :=
  { st with diags := if st.known then st.diags ++ [d] else st.diags, known := false }

theorem StLe.addDiags (st : ForSt) (ds : List Diag) : StLe st { st with diags := st.diags ++ ds } :=
  ⟨fun h => (List.append_eq_nil_iff.1 h).1, id, id⟩

theorem StLe.of_add {st t : ForSt} {ds : List Diag} (h : StLe { st with diags := st.diags ++ ds } t) : StLe st t :=
  (StLe.addDiags st ds).trans h

theorem StLe.joinMarks (st : ForSt) (f : Fl) : StLe st { st with marks := st.marks.join f } :=
  ⟨id, fun h => by show (st.marks.m || f.m) = true; rw [h]; rfl, id⟩

theorem StLe.unknown (st : ForSt) : StLe st { st with known := false } := ⟨id, id, fun _ => rfl⟩

theorem StLe.fail (st : ForSt) (d : Diag) : StLe st (failSt st d) :=
  ⟨fun h => by unfold failSt at h; split at h <;> simp_all, id, fun _ => rfl⟩

theorem forFold_le {stepf : ForSt → Val × Val → ForSt} (hle : ∀ st kv, StLe st (stepf st kv)) :
    ∀ (els : List (Val × Val)) (st : ForSt), StLe st (els.foldl stepf st)
  | [], st => .refl st
  | kv :: els, st => (hle st kv).trans (forFold_le hle els _)

theorem forFold_inv {stepf : ForSt → Val × Val → ForSt} (hle : ∀ st kv, StLe st (stepf st kv)) (P : ForSt → Prop) :
    ∀ (els : List (Val × Val)), (∀ st x, x ∈ els → P st → (stepf st x).diags = [] → P (stepf st x)) →
      ∀ st, P st → (els.foldl stepf st).diags = [] → P (els.foldl stepf st)
  | [], _, _, hp, _ => hp
  | x :: els, hstep, st, hp, h =>
    forFold_inv hle P els (fun st y hy => hstep st y (List.mem_cons_of_mem _ hy)) (stepf st x)
      (hstep st x (List.mem_cons_self ..) hp ((forFold_le hle els _).diags h)) h

/-- the test gives the next state and, if the body is to run, what it hands on to it -/
def gated {α : Type} (g : ForSt × Option α) (body : α → ForSt → ForSt) : ForSt :=
  match g.2 with
  | some a => body a g.1
  | none => g.1

theorem gated_le {α : Type} (g : ForSt × Option α) {body : α → ForSt → ForSt}
    (hle : ∀ a st, StLe st (body a st)) : StLe g.1 (gated g body) := by
  unfold gated; split
  · exact hle _ _
  · exact .refl _

theorem gated_agree {α : Type} {g : ForSt × Option α} {body body' : α → ForSt → ForSt}
    (hbody : ∀ a, (body a g.1).diags = [] → body' a g.1 = body a g.1) (h : (gated g body).diags = []) :
    gated g body' = gated g body := by
  unfold gated at h ⊢; split
  · rename_i a e; rw [e] at h; exact hbody a h
  · rfl

theorem gated_keeps {α : Type} {I : ForSt → Prop} {g : ForSt × Option α} {body : α → ForSt → ForSt} (hg : I g.1)
    (hb : ∀ a s, I s → (body a s).diags = [] → I (body a s)) (h : (gated g body).diags = []) : I (gated g body) := by
  unfold gated at h ⊢
  split
  · rename_i a e; rw [e] at h; exact hb a _ hg h
  · exact hg

/-- The three tests in a `for` body (the condition of either form, the key) have one shape: the operand's
    diagnostics are added; null fails; its marks are joined; it is converted to `ty`, which may fail; an unknown
    operand (seen before the conversion if `early`, after it otherwise) makes the result unknown; then `verdict`
    reads the converted value: `none` = not of the expected form, `some r` = what is handed on to `gated`.
    The test after the conversion is there in either case; with `early` it never fires, since conversion keeps
    an operand known (`tryConvert_isKnown`).  That is how the bodies that test only before the conversion (the
    condition of the tuple form, the key) are instances. -/
def gate {α : Type} (nullMsg errMsg : String) (ty : Ty) (early : Bool) (verdict : Val → Option (Option α))
    (o : Out) (st : ForSt) : ForSt × Option α :=
  let st1 : ForSt := { st with diags := st.diags ++ o.2 }
  if o.1.isNull then (failSt st1 ⟨nullMsg, []⟩, none)
  else
    let st2 : ForSt := { st1 with marks := st1.marks.join o.1.fl }
    if early && !o.1.isKnown then ({ st2 with known := false }, none)
    else match tryConvert o.1 ty with
      | .error d => (failSt st2 (if d.isUnsupported then d else ⟨errMsg, []⟩), none)
      | .ok b =>
        if !b.isKnown then ({ st2 with known := false }, none)
        else match verdict b with
          | some r => (st2, r)
          | none => ({ st2 with known := false }, none)

section
variable {α : Type} {nullMsg errMsg : String} {ty : Ty} {early : Bool} {verdict : Val → Option (Option α)}

theorem gate_le_notNull {o : Out} (st : ForSt) (hn : o.1.isNull = false) :
    StLe { st with diags := st.diags ++ o.2, marks := st.marks.join o.1.fl }
      (gate nullMsg errMsg ty early verdict o st).1 := by
  unfold gate
  simp only [hn, Bool.false_eq_true, if_false]
  split
  · exact .unknown _
  · split
    · exact .fail _ _
    · split
      · exact .unknown _
      · split
        · exact .refl _
        · exact .unknown _

theorem gate_le (o : Out) (st : ForSt) :
    StLe { st with diags := st.diags ++ o.2 } (gate nullMsg errMsg ty early verdict o st).1 := by
  cases hn : o.1.isNull
  · exact (StLe.joinMarks _ o.1.fl).trans (gate_le_notNull st hn)
  · simp only [gate, hn, if_true]; exact .fail _ _

/-- What every analysis of a loop reads off a test.  It never touches `vals` and `kvs`.  Either it passes with `r`:
    the operand is known and not null, converts to some `b`, and `verdict b = some r`; the state only gains the
    operand's diagnostics and marks.  Or it fails: nothing is handed on and the result is unknown; and if there is
    still no diagnostic although `st` was known, the operand was unknown or the verdict was `none`. -/
theorem gate_cases (o : Out) (st : ForSt) :
    ((gate nullMsg errMsg ty early verdict o st).1.vals = st.vals ∧
      (gate nullMsg errMsg ty early verdict o st).1.kvs = st.kvs) ∧
    ((o.1.isNull = false ∧ o.1.isKnown = true ∧ ∃ b r, tryConvert o.1 ty = .ok b ∧ verdict b = some r ∧
      gate nullMsg errMsg ty early verdict o st =
        ({ st with diags := st.diags ++ o.2, marks := st.marks.join o.1.fl }, r)) ∨
    ((gate nullMsg errMsg ty early verdict o st).2 = none ∧
      (gate nullMsg errMsg ty early verdict o st).1.known = false ∧
      ((gate nullMsg errMsg ty early verdict o st).1.diags = [] → st.known = true →
        o.1.isNull = false ∧ (o.1.isKnown = false ∨ ∃ b, tryConvert o.1 ty = .ok b ∧ verdict b = none)))) := by
  unfold gate failSt
  dsimp only
  cases hn : o.1.isNull
  case true => exact ⟨⟨rfl, rfl⟩, .inr ⟨rfl, rfl, fun hd hk => by simp [hk] at hd⟩⟩
  rw [if_neg Bool.false_ne_true]
  by_cases he : (early && !o.1.isKnown) = true
  · rw [if_pos he]
    exact ⟨⟨rfl, rfl⟩, .inr ⟨rfl, rfl, fun _ _ =>
      ⟨rfl, .inl (by simpa using he : early = true ∧ o.1.isKnown = false).2⟩⟩⟩
  rw [if_neg he]
  cases hc : tryConvert o.1 ty with
  | error d => exact ⟨⟨rfl, rfl⟩, .inr ⟨rfl, rfl, fun hd hk => by simp [hk] at hd⟩⟩
  | ok b =>
    dsimp only
    have hbk := tryConvert_isKnown hc
    cases hk : b.isKnown
    · exact ⟨⟨rfl, rfl⟩, .inr ⟨rfl, rfl, fun _ _ => ⟨rfl, .inl (hbk ▸ hk)⟩⟩⟩
    · rw [if_neg (by simp)]
      cases hv : verdict b with
      | none => exact ⟨⟨rfl, rfl⟩, .inr ⟨rfl, rfl, fun _ _ => ⟨rfl, .inr ⟨b, rfl, hv⟩⟩⟩⟩
      | some r => exact ⟨⟨rfl, rfl⟩, .inl ⟨rfl, hbk ▸ hk, b, r, rfl, hv, rfl⟩⟩

theorem gate_of_known {o : Out} {st : ForSt} (h : (gate nullMsg errMsg ty early verdict o st).1.known = true) :
    st.known = true ∧ o.1.isNull = false ∧ o.1.isKnown = true ∧ ∃ b r, tryConvert o.1 ty = .ok b ∧ verdict b = some r ∧
      gate nullMsg errMsg ty early verdict o st =
        ({ st with diags := st.diags ++ o.2, marks := st.marks.join o.1.fl }, r) := by
  rcases (gate_cases o st).2 with ⟨hn, hk, b, r, hb, hv, e⟩ | ⟨-, hf, -⟩
  · exact ⟨by rw [e] at h; exact h, hn, hk, b, r, hb, hv, e⟩
  · rw [hf] at h; cases h

theorem gate_known {o : Out} {st : ForSt} (hd : (gate nullMsg errMsg ty early verdict o st).1.diags = [])
    (hk : st.known = true) (ho : o.1.isKnown = true)
    (hv : o.1.isNull = false → ∀ b, tryConvert o.1 ty = .ok b → verdict b ≠ none) :
    (gate nullMsg errMsg ty early verdict o st).1.known = true := by
  rcases (gate_cases o st).2 with ⟨-, -, b, r, -, -, e⟩ | ⟨-, -, hs⟩
  · rw [e]; exact hk
  · obtain ⟨hn, hu | ⟨b, hb, hvb⟩⟩ := hs hd hk
    · rw [ho] at hu; cases hu
    · exact absurd hvb (hv hn b hb)

end

/-- a round without diagnostics: the operand of its test had none -/
theorem gate_operand_nil {st st1 st2 : ForSt} {ds : List Diag} (hle : StLe { st with diags := st.diags ++ ds } st1)
    (hle' : StLe st1 st2) (h : st2.diags = []) : ds = [] :=
  (List.append_eq_nil_iff.1 (hle.diags (hle'.diags h))).2

/-- the verdict of a condition: `false` skips the element -/
def condVerdict : Val → Option (Option Unit)
  | .bool _ false => some none
  | _ => some (some ())

theorem condVerdict_ne_none (b : Val) : condVerdict b ≠ none := by
  unfold condVerdict; split <;> exact fun h => nomatch h

/-- the verdict of a key: the flags and the string of the converted key are handed on -/
def keyVerdict (ks : Val) : Option (Option (Fl × String)) :=
  match ks.unmark.1 with
  | .str kf k => some (some (kf, k))
  | _ => none

theorem probe_diags (probe : Option Out) :
    ((probe.map probeCond).map (·.1)).getD [] = [] → ∀ o, probe = some o → o.2 = [] := by
  intro h o ho
  subst ho
  obtain ⟨r, pd⟩ := o
  simp only [Option.map_some, Option.getD_some, probeCond] at h
  split at h
  · simp at h
  · split at h
    · simp at h
    · exact h

theorem probe_stop (probe : Option Out) :
    ((probe.map probeCond).map (·.2.2)).getD false = true → ((probe.map probeCond).map (·.1)).getD [] ≠ [] := by
  intro h
  cases probe with
  | none => simp at h
  | some o =>
    obtain ⟨r, pd⟩ := o
    simp only [Option.map_some, Option.getD_some, probeCond] at h ⊢
    split
    · simp
    · split
      · simp
      · cases pd <;> simp_all [hasErrors]

/-- What a `for` expression without diagnostics has found before the loop.  A collection of the dynamic type is
answered before anything else is looked at, so nothing is known of the condition then. -/
def ForReady (co : Out) (probe : Option Out) : Prop :=
  co.2 = [] ∧ co.1.isNull = false ∧ ((co.1.typeOf == Ty.dyn) = false →
    canIterate co.1.typeOf = true ∧ ((probe.map probeCond).map (·.1)).getD [] = [] ∧
    ((probe.map probeCond).map (·.2.2)).getD false = false)

theorem forOut_ready {co : Out} {probe : Option Out} {stepf : ForSt → Val × Val → ForSt} {fin : ForSt → Out}
    (hfd : ∀ st, (fin st).2 = st.diags) (hle : ∀ st kv, StLe st (stepf st kv))
    (h : (forOut co probe stepf fin).2 = []) : ForReady co probe := by
  obtain ⟨cv, cd⟩ := co
  unfold forOut at h
  unfold ForReady
  simp only [] at h ⊢
  cases hn : cv.isNull
  case true => simp [hn] at h
  simp only [hn, Bool.false_eq_true, if_false] at h
  cases hd : (cv.typeOf == Ty.dyn)
  case true => simp only [hd, if_true] at h; exact ⟨h, rfl, fun e => nomatch e⟩
  simp only [hd, Bool.false_eq_true, if_false, unmark, typeOf_setFl] at h
  cases hc : canIterate cv.typeOf
  case false => simp [hc] at h
  simp only [hc, Bool.not_true, Bool.false_eq_true, if_false] at h
  -- whichever way it ends from here, the diagnostics begin with those of the collection and of the condition
  have hds : cd ++ ((probe.map probeCond).map (·.1)).getD [] = [] := by
    split at h
    · exact h
    · split at h
      · exact h
      · rw [hfd] at h; exact (forFold_le hle _ _).diags h
  obtain ⟨hcd, hpd⟩ := List.append_eq_nil_iff.1 hds
  exact ⟨hcd, rfl, fun _ => ⟨rfl, hpd, Bool.eq_false_iff.2 fun hp => probe_stop _ hp hpd⟩⟩


theorem forOut_eq {co : Out} {probe : Option Out} (hr : ForReady co probe) (stepf : ForSt → Val × Val → ForSt)
    (fin : ForSt → Out) :
    forOut co probe stepf fin =
      if co.1.typeOf == Ty.dyn then (Val.dynVal, [])
      else match elements co.1.unmark.1 with
        | none => (Val.dynVal.withFl (co.1.fl.join (((probe.map probeCond).map (·.2.1)).getD Fl.none)), [])
        | some els => fin (els.foldl stepf { diags := [], marks := co.1.fl }) := by
  obtain ⟨cv, cd⟩ := co
  obtain ⟨hcd, hn, hr⟩ := hr
  simp only [] at hcd hn hr ⊢
  subst hcd
  unfold forOut
  simp only [hn, Bool.false_eq_true, if_false]
  split
  · rfl
  · rename_i hd
    obtain ⟨hc, hpd, hp⟩ := hr (by simpa using hd)
    simp only [unmark, typeOf_setFl, hc, hpd, hp, Bool.not_true, Bool.false_eq_true, if_false, List.append_nil]
    rfl

/-- `hunk`: no loop is run when the collection is of the dynamic type or has no elements to enumerate; `P` is an
invariant of the rounds without diagnostics. -/
theorem forOut_keeps {Q : Val → Prop} {P : ForSt → Prop} {co : Out} {probe : Option Out}
    {stepf : ForSt → Val × Val → ForSt} {fin : ForSt → Out}
    (hfd : ∀ st, (fin st).2 = st.diags) (hle : ∀ st kv, StLe st (stepf st kv))
    (hunk : co.1.isNull = false → (co.1.typeOf == Ty.dyn) = true ∨
      canIterate co.1.typeOf = true ∧ elements co.1.unmark.1 = none → ∀ f, Q (.unk f .dyn))
    (hstep : ∀ els, elements co.1.unmark.1 = some els →
      ∀ st x, x ∈ els → P st → (stepf st x).diags = [] → P (stepf st x))
    (hinit : P { diags := [], marks := co.1.fl }) (hfin : ∀ st, P st → Q (fin st).1)
    (h : (forOut co probe stepf fin).2 = []) : Q (forOut co probe stepf fin).1 := by
  have hr := forOut_ready hfd hle h
  rw [forOut_eq hr] at h ⊢
  cases hd : (co.1.typeOf == Ty.dyn)
  · simp only [hd, Bool.false_eq_true, if_false] at h ⊢
    cases hel : elements co.1.unmark.1 with
    | none => exact hunk hr.2.1 (.inr ⟨(hr.2.2 hd).1, hel⟩) _
    | some els =>
      simp only [hel] at h ⊢
      rw [hfd] at h
      exact hfin _ (forFold_inv hle P els (hstep els hel) _ hinit h)
  · exact hunk hr.2.1 (.inl hd) _

theorem forOut_not_null (co : Out) (probe : Option Out) (stepf : ForSt → Val × Val → ForSt) {fin : ForSt → Out}
    (hfin : ∀ st, (fin st).1.isNull = false) : (forOut co probe stepf fin).1.isNull = false := by
  obtain ⟨cv, cd⟩ := co
  unfold forOut
  dsimp only
  cases cv.isNull
  case true => rfl
  cases (cv.typeOf == Ty.dyn)
  case true => rfl
  cases canIterate cv.unmark.1.typeOf
  case false => rfl
  cases ((probe.map probeCond).map (·.2.2)).getD false
  case true => rfl
  cases elements cv.unmark.1 with
  | none => rfl
  | some els => exact hfin _

theorem forTupleFin_diags (st : ForSt) : (forTupleFin st).2 = st.diags := by
  unfold forTupleFin; split <;> rfl

theorem forObjectFin_diags (g : Bool) (st : ForSt) : (forObjectFin g st).2 = st.diags := by
  unfold forObjectFin; split <;> (try split) <;> rfl

theorem tupStep_le (ev : Val → Val → Out) (st : ForSt) (kv : Val × Val) : StLe st (tupStep ev st kv) :=
  ⟨fun h => (List.append_eq_nil_iff.1 h).1, id, id⟩

/-- the test of the condition, tuple form -/
abbrev tupGate : Out → ForSt → ForSt × Option Unit :=
  gate "Invalid 'for' condition: null" "Invalid 'for' condition" .bool true condVerdict

theorem forTupleStep_gate (ev c : Val → Val → Out) (st : ForSt) (kv : Val × Val) :
    forTupleStep ev (some c) st kv = gated (tupGate (c kv.1 kv.2) st) fun _ st => tupStep ev st kv := by
  unfold forTupleStep tupGate gate gated
  simp only []
  cases (c kv.1 kv.2).1.isNull
  case true => rfl
  case false =>
    cases hk : (c kv.1 kv.2).1.isKnown
    case false => rfl
    case true =>
      cases hc : tryConvert (c kv.1 kv.2).1 .bool with
      | error d => rfl
      | ok b =>
        -- the converted value is known as the operand is: the second test of that never fires here
        have hb := (tryConvert_isKnown hc).trans hk
        cases b <;> first | rfl | (simp [isKnown] at hb; done) | (rename_i b; cases b <;> rfl)

theorem forTupleStep_le (ev : Val → Val → Out) (ec : Option (Val → Val → Out)) (st : ForSt) (kv : Val × Val) :
    StLe st (forTupleStep ev ec st kv) := by
  cases ec with
  | none => exact tupStep_le ev st kv
  | some c =>
    rw [forTupleStep_gate]
    exact ((gate_le _ st).trans (gated_le _ fun _ st => tupStep_le ev st kv)).of_add

theorem tupStep_all {P : Val → Prop} {ev : Val → Val → Out} {st : ForSt} {kv : Val × Val}
    (hv : (ev kv.1 kv.2).2 = [] → P (ev kv.1 kv.2).1) (hp : ∀ v ∈ st.vals, P v)
    (h : (tupStep ev st kv).diags = []) : ∀ v ∈ (tupStep ev st kv).vals, P v := by
  intro v hm
  rcases List.mem_append.mp hm with hm | hm
  · exact hp v hm
  · rw [List.mem_singleton.mp hm]; exact hv (List.append_eq_nil_iff.mp h).2

theorem forTupleStep_all {P : Val → Prop} {ev : Val → Val → Out} {ec : Option (Val → Val → Out)} {st : ForSt}
    {kv : Val × Val} (hv : (ev kv.1 kv.2).2 = [] → P (ev kv.1 kv.2).1) (hp : ∀ v ∈ st.vals, P v)
    (h : (forTupleStep ev ec st kv).diags = []) : ∀ v ∈ (forTupleStep ev ec st kv).vals, P v := by
  cases ec with
  | none => exact tupStep_all hv hp h
  | some c =>
    rw [forTupleStep_gate] at h ⊢
    exact gated_keeps (I := fun s => ∀ v ∈ s.vals, P v) ((gate_cases _ st).1.1 ▸ hp)
      (fun _ _ hs hd => tupStep_all hv hs hd) h

theorem forTupleStep_known {ev : Val → Val → Out} {ec : Option (Val → Val → Out)} {st : ForSt} {kv : Val × Val}
    (hc : ∀ c, ec = some c → (c kv.1 kv.2).2 = [] → (c kv.1 kv.2).1.isKnown = true)
    (hk : st.known = true) (h : (forTupleStep ev ec st kv).diags = []) :
    (forTupleStep ev ec st kv).known = true := by
  cases ec with
  | none => exact hk
  | some c =>
    rw [forTupleStep_gate] at h ⊢
    have le := gated_le (tupGate (c kv.1 kv.2) st) fun _ st => tupStep_le ev st kv
    exact gated_keeps (I := fun s => s.known = true)
      (gate_known (le.diags h) hk (hc c rfl (gate_operand_nil (gate_le _ _) le h)) fun _ b _ => condVerdict_ne_none b)
      (fun _ _ hs _ => hs) h

/-- the key/value pair is put into the result: the part of the body behind the test of the key -/
def objIns (group : Bool) (kf : Fl) (k : String) (vo : Out) (st : ForSt) : ForSt :=
  let st : ForSt := { st with diags := st.diags ++ vo.2 }
  if group then { st with kvs := groupInsert k vo.1 st.kvs }
  else if (lookupKey k st.kvs).isSome then
    { st with diags := st.diags ++ [⟨"Duplicate object key", if st.marks.m then [] else [.str kf k]⟩] }
  else { st with kvs := groupInsert k vo.1 st.kvs }

theorem objIns_le (g : Bool) (kf : Fl) (k : String) (vo : Out) (st : ForSt) :
    StLe { st with diags := st.diags ++ vo.2 } (objIns g kf k vo st) := by
  unfold objIns
  simp only []
  split
  · exact ⟨id, id, id⟩
  · split
    · exact .addDiags _ _
    · exact ⟨id, id, id⟩

theorem objIns_nil {g : Bool} {kf : Fl} {k : String} {vo : Out} {st : ForSt} (h : (objIns g kf k vo st).diags = []) :
    vo.2 = [] ∧ (objIns g kf k vo st).kvs = groupInsert k vo.1 st.kvs := by
  refine ⟨(List.append_eq_nil_iff.1 ((objIns_le g kf k vo st).diags h)).2, ?_⟩
  unfold objIns at h ⊢
  dsimp only at h ⊢
  split
  next => rfl
  next hg =>
    split
    next hl => rw [if_neg hg, if_pos hl] at h; simp at h
    next => rfl

theorem objIns_keeps (g : Bool) (kf : Fl) (k : String) (vo : Out) (st : ForSt) :
    (objIns g kf k vo st).known = st.known ∧ (objIns g kf k vo st).vals = st.vals := by
  unfold objIns
  dsimp only
  split
  · exact ⟨rfl, rfl⟩
  · split <;> exact ⟨rfl, rfl⟩

abbrev keyGate : Out → ForSt → ForSt × Option (Fl × String) :=
  gate "Invalid object key: null" "Invalid object key" .str true keyVerdict

theorem objStep_gate (g : Bool) (ek ev : Val → Val → Out) (st : ForSt) (kv : Val × Val) :
    objStep g ek ev st kv =
      gated (keyGate (ek kv.1 kv.2) st) fun p st => objIns g p.1 p.2 (ev kv.1 kv.2) st := by
  unfold objStep keyGate gate gated
  simp only []
  cases (ek kv.1 kv.2).1.isNull
  case true => rfl
  case false =>
    cases hk : (ek kv.1 kv.2).1.isKnown
    case false => rfl
    case true =>
      cases hc : tryConvert (ek kv.1 kv.2).1 .str with
      | error d => rfl
      | ok ks =>
        have hb := (tryConvert_isKnown hc).trans hk
        cases ks <;> first | rfl | (simp [isKnown] at hb; done)

theorem objStep_le (g : Bool) (ek ev : Val → Val → Out) (st : ForSt) (kv : Val × Val) :
    StLe st (objStep g ek ev st kv) := by
  rw [objStep_gate]
  exact ((gate_le _ st).trans (gated_le _ fun (p : Fl × String) st => (objIns_le g p.1 p.2 _ st).of_add)).of_add

/-- the test of the condition, object form -/
abbrev objGate : Out → ForSt → ForSt × Option Unit :=
  gate "Invalid 'for' condition: null" "Invalid 'for' condition" .bool false condVerdict

theorem forObjectStep_gate (g : Bool) (ek ev c : Val → Val → Out) (st : ForSt) (kv : Val × Val) :
    forObjectStep g ek ev (some c) st kv =
      gated (objGate (c kv.1 kv.2) st) fun _ st => objStep g ek ev st kv := by
  unfold forObjectStep objGate gate gated
  simp only []
  cases (c kv.1 kv.2).1.isNull
  case true => rfl
  case false =>
    cases tryConvert (c kv.1 kv.2).1 .bool with
    | error d => rfl
    | ok b => cases b <;> first | rfl | (rename_i b; cases b <;> rfl)

theorem forObjectStep_le (g : Bool) (ek ev : Val → Val → Out) (ec : Option (Val → Val → Out)) (st : ForSt)
    (kv : Val × Val) : StLe st (forObjectStep g ek ev ec st kv) := by
  cases ec with
  | none => exact objStep_le g ek ev st kv
  | some c =>
    rw [forObjectStep_gate]
    exact ((gate_le _ st).trans (gated_le _ fun _ st => objStep_le g ek ev st kv)).of_add

/-! The parts of `splatOut`, named so that `splatOut_eq` states it as a chain of tests. -/

def splatAutoUp (sv : Val) : Bool := match sv.typeOf with | .tuple _ | .list _ => false | _ => true

def splatSrc (sv : Val) : Val := if splatAutoUp sv then (Val.tuple Fl.none [sv]).withFl sv.fl else sv

def splatResultTy (each : Val → Out) (sv : Val) : Ty × List Diag :=
  let eachTy (t : Ty) : Ty × List Diag :=
    let (v, ds) := each (Val.unk Fl.none t)
    (v.typeOf, ds)
  match sv.typeOf with
  | .list t => let (rt, ds) := eachTy t; (.list rt, ds)
  | .tuple ts =>
    let rs := ts.map eachTy
    (.tuple (rs.map (·.1)), rs.flatMap (·.2))
  | _ => (.dyn, [])

def splatItems (sv : Val) : List Val := match sv with | .list _ _ xs => xs | .tuple _ xs => xs | _ => []

/-- the items a splat iterates over (after the automatic upgrade of a non-sequence to a one-element tuple) -/
def splatElems (sv : Val) : List Val := splatItems (splatSrc sv).unmark.1

def splatFinish (sv : Val) (sm : Fl) (resultTy : Ty × List Diag) (vals : List Val) (ds : List Diag) : Out :=
  match sv with
  | .list _ _ _ =>
    (match vals with
     | [] => (match resultTy.1 with
        | .list t => ((Val.list Fl.none t []).withFl sm, ds ++ resultTy.2)
        | _ => unsupportedOut "splat empty list")
     | v :: vs =>
       if vs.all (fun w => w.typeOf == v.typeOf) then ((Val.list Fl.none v.typeOf vals).withFl sm, ds)
       else unsupportedOut "splat: list elements of different types")
  | _ => ((Val.tuple Fl.none vals).withFl sm, ds)

theorem splatOut_eq (keep : Bool) (sv : Val) (sd : List Diag) (each : Val → Out) :
    splatOut keep (sv, sd) each =
      if hasErrors sd then (Val.dynVal, sd)
      else if sv.isNull then
        (if splatAutoUp sv then ((Val.tuple Fl.none []).withFl sv.fl, sd) else (Val.dynVal, sd ++ [⟨"Splat of null value", []⟩]))
      else if sv.typeOf == .dyn then (Val.dynVal.withFl sv.fl, sd)
      else
        let sv2 := splatSrc sv
        let rt := splatResultTy each sv2
        if !sv2.isKnown then ((Val.unk Fl.none rt.1).withFl sv2.fl, sd ++ rt.2)
        else
          let sv3 := sv2.unmark.1
          let sm := sv2.fl
          let rs := (splatItems sv3).map each
          let ds := sd ++ rs.flatMap (·.2)
          if splatAutoUp sv && !sv.isKnown then (Val.dynVal.withFl sm, ds)
          else if !(rs.all fun r => !hasErrors r.2) then
            ((Val.unk Fl.none rt.1).withFl sm, if keep then ds ++ rt.2 else ds)
          else splatFinish sv3 sm rt (rs.map (·.1)) ds := by
  unfold splatOut
  rfl

theorem splatSrc_cases (sv : Val) :
    (splatAutoUp sv = true ∧ splatSrc sv = (Val.tuple Fl.none [sv]).withFl sv.fl) ∨
    (splatAutoUp sv = false ∧ splatSrc sv = sv) := by
  unfold splatSrc
  cases splatAutoUp sv
  · exact .inr ⟨rfl, rfl⟩
  · exact .inl ⟨rfl, rfl⟩

theorem splatSrc_fl (sv : Val) : (splatSrc sv).fl = sv.fl := by
  unfold splatSrc; split
  · show Fl.none.join sv.fl = sv.fl
    cases sv.fl; rfl
  · rfl

theorem splatOut_nil {keep : Bool} {so : Out} {each : Val → Out} (h : (splatOut keep so each).2 = []) : so.2 = [] := by
  obtain ⟨sv, sd⟩ := so
  rw [splatOut_eq] at h
  cases sd with
  | nil => rfl
  | cons d sd => simp [hasErrors] at h

theorem flatMap_nil_all (rs : List Out) (h : rs.flatMap (·.2) = []) : (rs.all fun r => !hasErrors r.2) = true := by
  simp only [List.flatMap_eq_nil_iff] at h
  simp only [List.all_eq_true]
  intro r hr
  simp [hasErrors, h r hr]

theorem splatFinish_nil (sv : Val) (sm : Fl) (rt : Ty × List Diag) (vals : List Val) (ds : List Diag)
    (h : (splatFinish sv sm rt vals ds).2 = []) : ds = [] := by
  unfold splatFinish at h
  split at h
  · split at h
    · split at h
      · simp only [List.append_eq_nil_iff] at h; exact h.1
      · simp [unsupportedOut] at h
    · split at h
      · exact h
      · simp [unsupportedOut] at h
  · exact h

theorem splatFinish_clean {sv : Val} {sm : Fl} {rt : Ty × List Diag} {vals : List Val}
    (h : (splatFinish sv sm rt vals []).2 = []) :
    ((∃ f t' xs, sv = .list f t' xs) ∧
      ∃ t, (splatFinish sv sm rt vals []).1 = (Val.list Fl.none t vals).withFl sm ∧
        (∀ w ∈ vals, w.typeOf = t) ∧ (vals = [] → rt = (.list t, []))) ∨
    ((∀ f t' xs, sv ≠ .list f t' xs) ∧ (splatFinish sv sm rt vals []).1 = (Val.tuple Fl.none vals).withFl sm) := by
  unfold splatFinish at h ⊢
  cases sv
  case list f t' xs =>
    refine .inl ⟨⟨f, t', xs, rfl⟩, ?_⟩
    simp only [] at h ⊢
    cases vals with
    | nil =>
      simp only [] at h ⊢
      cases hrt : rt.1 <;> simp only [hrt] at h
      case list t => exact ⟨t, rfl, fun _ hw => (nomatch hw), fun _ => Prod.ext hrt (by simpa using h)⟩
      all_goals simp [unsupportedOut] at h
    | cons v vs =>
      simp only [] at h ⊢
      by_cases hall : (vs.all fun w => w.typeOf == v.typeOf) = true
      · simp only [hall, if_true]
        refine ⟨v.typeOf, rfl, fun w hw => ?_, fun e => (nomatch e)⟩
        rcases List.mem_cons.mp hw with rfl | hw
        · rfl
        · simpa using List.all_eq_true.mp hall w hw
      · simp [hall, unsupportedOut] at h
  all_goals exact .inr ⟨fun _ _ _ e => (nomatch e), rfl⟩

/-- the value of a splat without diagnostics, and which of its parts had none -/
theorem splatOut_clean {keep : Bool} {sv : Val} {sd : List Diag} {each : Val → Out}
    (h : (splatOut keep (sv, sd) each).2 = []) :
    (splatOut keep (sv, sd) each).1 =
      (if sv.isNull then (Val.tuple Fl.none []).withFl sv.fl
       else if sv.typeOf == .dyn then Val.dynVal.withFl sv.fl
       else if !(splatSrc sv).isKnown then (Val.unk Fl.none (splatResultTy each (splatSrc sv)).1).withFl sv.fl
       else if splatAutoUp sv && !sv.isKnown then Val.dynVal.withFl sv.fl
       else (splatFinish (splatSrc sv).unmark.1 sv.fl (splatResultTy each (splatSrc sv))
         (((splatElems sv).map each).map (·.1)) []).1) ∧
    (sv.isNull = true → splatAutoUp sv = true) ∧
    (sv.isNull = false → (sv.typeOf == .dyn) = false →
      ((splatSrc sv).isKnown = false → (splatResultTy each (splatSrc sv)).2 = []) ∧
      ((splatSrc sv).isKnown = true →
        (∀ it ∈ splatElems sv, (each it).2 = []) ∧
        ((splatAutoUp sv && !sv.isKnown) = false →
          (splatFinish (splatSrc sv).unmark.1 sv.fl (splatResultTy each (splatSrc sv))
            (((splatElems sv).map each).map (·.1)) []).2 = []))) := by
  have hsd : sd = [] := splatOut_nil (so := (sv, sd)) h
  subst hsd
  rw [splatOut_eq] at h ⊢
  simp only [hasErrors, List.isEmpty_nil, Bool.not_true, Bool.false_eq_true, if_false, List.nil_append,
    splatSrc_fl] at h ⊢
  cases hn : sv.isNull
  · simp only [hn, Bool.false_eq_true, if_false] at h ⊢
    cases hd : (sv.typeOf == Ty.dyn)
    · simp only [hd, Bool.false_eq_true, if_false] at h ⊢
      cases hk : (splatSrc sv).isKnown
      · simp only [hk, Bool.not_false, if_true] at h
        exact ⟨by simp only [Bool.not_false, if_true], fun hc => (nomatch hc), fun _ _ => ⟨fun _ => h, fun hc => nomatch hc⟩⟩
      · simp only [hk, Bool.not_true, Bool.false_eq_true, if_false] at h ⊢
        have hds : ((splatElems sv).map each).flatMap (·.2) = [] := by
          split at h
          · exact h
          · split at h
            · split at h
              · exact (List.append_eq_nil_iff.1 h).1
              · exact h
            · exact splatFinish_nil _ _ _ _ _ h
        have hel : ∀ it ∈ splatElems sv, (each it).2 = [] := by
          simpa only [List.flatMap_eq_nil_iff, List.mem_map, forall_exists_index, and_imp,
            forall_apply_eq_imp_iff₂] using hds
        cases hu : (splatAutoUp sv && !sv.isKnown)
        · have hall := flatMap_nil_all _ hds
          simp only [hasErrors] at hall
          simp only [splatElems] at hds hall
          simp only [hu, hall, hds, Bool.not_true, Bool.false_eq_true, if_false] at h ⊢
          exact ⟨rfl, fun hc => (nomatch hc), fun _ _ => ⟨fun hc => (nomatch hc), fun _ => ⟨hel, fun _ => h⟩⟩⟩
        · exact ⟨by simp only [if_true], fun hc => (nomatch hc),
            fun _ _ => ⟨fun hc => (nomatch hc), fun _ => ⟨hel, fun hc => nomatch hc⟩⟩⟩
    · exact ⟨by simp only [if_true], fun hc => (nomatch hc), fun _ hc => nomatch hc⟩
  · simp only [hn, if_true] at h ⊢
    cases ha : splatAutoUp sv
    · simp [ha] at h
    · exact ⟨by simp only [if_true], fun _ => rfl, fun hc => nomatch hc⟩

theorem tmplStep_clean {st : TSt} {o : Out} (h : (tmplStep st o).1 = []) :
    st.1 = [] ∧ o.2 = [] ∧ o.1.isNull = false ∧
    ((o.1.isKnown = false ∧ tmplStep st o = ([], false, st.2.2.1.join o.1.fl, st.2.2.2)) ∨
      (o.1.isKnown = true ∧ ∃ s, tryConvert o.1.unmark.1 .str = .ok (.str o.1.unmark.1.fl s) ∧
        tmplStep st o = ([], st.2.1, st.2.2.1.join o.1.fl, if st.2.1 then st.2.2.2 ++ s else st.2.2.2))) := by
  obtain ⟨ds, known, ms, buf⟩ := st
  obtain ⟨pv, pd⟩ := o
  unfold tmplStep at h ⊢
  simp only [] at h ⊢
  cases hn : pv.isNull
  case true => simp [hn] at h
  simp only [hn, Bool.false_eq_true, if_false, unmark] at h ⊢
  cases hk : pv.isKnown
  · simp only [hk, Bool.not_false, if_true, List.append_eq_nil_iff] at h ⊢
    obtain ⟨rfl, rfl⟩ := h
    exact ⟨rfl, rfl, trivial, .inl ⟨trivial, rfl⟩⟩
  simp only [hk, Bool.not_true, Bool.false_eq_true, if_false] at h ⊢
  cases c : tryConvert (pv.setFl pv.fl.unmark) .str with
  | error d => simp [c] at h
  | ok sv =>
    simp only [c] at h ⊢
    rcases tryConvert_str (by simpa using hn) c with ⟨-, s, rfl⟩ | ⟨hu, -⟩
    · simp only [List.append_eq_nil_iff] at h
      obtain ⟨rfl, rfl⟩ := h
      exact ⟨rfl, rfl, trivial, .inr ⟨trivial, s, rfl, by simp [hasErrors]⟩⟩
    · rw [isKnown_setFl, hk] at hu; cases hu

theorem tmplFold_diags : ∀ {outs : List Out} {st : TSt}, (outs.foldl tmplStep st).1 = [] →
    st.1 = [] ∧ ∀ o ∈ outs, o.2 = []
  | [], st, h => ⟨h, by simp⟩
  | o :: outs, st, h => by
    simp only [List.foldl_cons] at h
    obtain ⟨h1, h2⟩ := tmplFold_diags h
    obtain ⟨h3, h4, -⟩ := tmplStep_clean h1
    refine ⟨h3, ?_⟩
    intro o' ho
    rcases List.mem_cons.1 ho with rfl | ho
    · exact h4
    · exact h2 o' ho

theorem tmplOut_eq (st : TSt) :
    tmplOut st = if st.2.1 then (Val.str st.2.2.1 st.2.2.2, st.1) else (Val.unk st.2.2.1 .str, st.1) := rfl

theorem tmplOut_diags (st : TSt) : (tmplOut st).2 = st.1 := by
  rw [tmplOut_eq]; split <;> rfl

theorem template_nil (outs : List Out)
    (h : (tmplOut (outs.foldl tmplStep (([] : List Diag), true, Fl.none, ""))).2 = []) : ∀ o ∈ outs, o.2 = [] := by
  rw [tmplOut_diags] at h
  exact (tmplFold_diags h).2

theorem tjoinLoop_cons (tm : Fl) (x : Val) (rest : List Val) (ds : List Diag) (ms : Fl) (buf : String) :
    (∃ d, tjoinLoop tm (x :: rest) ds ms buf = tjoinLoop tm rest (ds ++ [d]) ms buf) ∨
    (x.isNull = false ∧ (x.typeOf == Ty.dyn) = false ∧ x.isKnown = true ∧
      ∃ s, tryConvert x .str = .ok (.str x.fl s) ∧
        tjoinLoop tm (x :: rest) ds ms buf = tjoinLoop tm rest ds (ms.join x.fl) (buf ++ s)) ∨
    (x.isNull = false ∧ ((x.typeOf == Ty.dyn) = true ∨ x.isKnown = false) ∧
      tjoinLoop tm (x :: rest) ds ms buf = ((Val.unk Fl.none .str).withFl tm, ds)) := by
  rw [tjoinLoop]
  cases hn : x.isNull
  case true => exact .inl ⟨_, rfl⟩
  cases hd : (x.typeOf == Ty.dyn)
  case true => exact .inr (.inr ⟨rfl, .inl rfl, rfl⟩)
  cases c : tryConvert x .str with
  | error d => exact .inl ⟨_, rfl⟩
  | ok sv =>
    rcases tryConvert_str hn c with ⟨hk, s, rfl⟩ | ⟨hk, rfl⟩
    · exact .inr (.inl ⟨rfl, rfl, hk, s, rfl, by simp only [hk]; rfl⟩)
    · exact .inr (.inr ⟨rfl, .inr hk, by simp only [hk]; rfl⟩)

theorem tjoinLoop_ext (tm : Fl) : ∀ (xs : List Val) (ds : List Diag) (ms : Fl) (buf : String),
    ∃ l, (tjoinLoop tm xs ds ms buf).2 = ds ++ l
  | [], ds, ms, buf => ⟨[], by simp [tjoinLoop]⟩
  | x :: xs, ds, ms, buf => by
    rcases tjoinLoop_cons tm x xs ds ms buf with ⟨d, e⟩ | ⟨-, -, -, s, -, e⟩ | ⟨-, -, e⟩ <;> rw [e]
    · obtain ⟨l, hl⟩ := tjoinLoop_ext tm xs (ds ++ [d]) ms buf
      exact ⟨_, by rw [hl, List.append_assoc]⟩
    · exact tjoinLoop_ext tm xs ds _ _
    · exact ⟨[], (List.append_nil _).symm⟩

theorem tjoinLoop_nil (tm : Fl) (xs : List Val) (ds : List Diag) (ms : Fl) (buf : String)
    (h : (tjoinLoop tm xs ds ms buf).2 = []) : ds = [] := by
  obtain ⟨l, hl⟩ := tjoinLoop_ext tm xs ds ms buf
  exact (List.append_eq_nil_iff.1 (hl ▸ h)).1

theorem tjoinLoop_type (tm : Fl) : ∀ (xs : List Val) (ds : List Diag) (ms : Fl) (buf : String),
    typeOf (tjoinLoop tm xs ds ms buf).1 = .str ∧ isLeaf (tjoinLoop tm xs ds ms buf).1 = true
  | [], ds, ms, buf => by simp [tjoinLoop, typeOf, isLeaf]
  | x :: xs, ds, ms, buf => by
    rcases tjoinLoop_cons tm x xs ds ms buf with ⟨d, e⟩ | ⟨-, -, -, s, -, e⟩ | ⟨-, -, e⟩ <;> rw [e]
    · exact tjoinLoop_type tm xs _ _ _
    · exact tjoinLoop_type tm xs _ _ _
    · exact ⟨rfl, rfl⟩

theorem tjoinLoop_cons_clean {tm : Fl} {x : Val} {xs : List Val} {ds : List Diag} {ms : Fl} {buf : String}
    (h : (tjoinLoop tm (x :: xs) ds ms buf).2 = []) :
    x.isNull = false ∧
    ((((x.typeOf == Ty.dyn) = true ∨ x.isKnown = false) ∧
        tjoinLoop tm (x :: xs) ds ms buf = ((Val.unk Fl.none .str).withFl tm, ds)) ∨
      ((x.typeOf == Ty.dyn) = false ∧ x.isKnown = true ∧ ∃ s, tryConvert x .str = .ok (.str x.fl s) ∧
        tjoinLoop tm (x :: xs) ds ms buf = tjoinLoop tm xs ds (ms.join x.fl) (buf ++ s))) := by
  rcases tjoinLoop_cons tm x xs ds ms buf with ⟨d, e⟩ | ⟨hn, c⟩ | ⟨hn, c⟩
  · have := tjoinLoop_nil _ _ _ _ _ (e ▸ h)
    simp at this
  · exact ⟨hn, .inr c⟩
  · exact ⟨hn, .inl c⟩

theorem tjoinOut_clean {o : Out} (h : (tjoinOut o).2 = []) :
    (((o.1.typeOf == Ty.dyn) = true ∨ o.1.isKnown = false) ∧ tjoinOut o = (.unk Fl.none .str, o.2)) ∨
    ((o.1.typeOf == Ty.dyn) = false ∧ o.1.isKnown = true ∧ ∃ f xs, o.1.unmark.1 = .tuple f xs ∧
      tjoinOut o = tjoinLoop o.1.fl xs o.2 o.1.fl "") := by
  obtain ⟨tv, ds⟩ := o
  unfold tjoinOut at h ⊢
  simp only [] at h ⊢
  cases hd : (tv.typeOf == Ty.dyn)
  case true => exact .inl ⟨.inl rfl, rfl⟩
  simp only [hd, Bool.false_eq_true, if_false] at h ⊢
  cases hk : tv.isKnown
  case false => exact .inl ⟨.inr rfl, rfl⟩
  simp only [hk, Bool.not_true, Bool.false_eq_true, if_false, unmark] at h ⊢
  cases htv : tv.setFl tv.fl.unmark <;> simp only [htv] at h ⊢
  case tuple f xs => exact .inr ⟨trivial, trivial, f, xs, rfl, rfl⟩
  all_goals simp [unsupportedOut] at h

theorem tjoinOut_nil {o : Out} (h : (tjoinOut o).2 = []) : o.2 = [] := by
  rcases tjoinOut_clean h with ⟨-, e⟩ | ⟨-, -, f, xs, -, e⟩ <;> rw [e] at h
  · exact h
  · exact tjoinLoop_nil _ _ _ _ _ h

theorem fold_flags (args : List Val) (f0 : Fl) :
    args.foldl (fun f a => f.join (Val.flagsDeep a)) f0 = f0.join (flagsDeepList args) := by
  induction args generalizing f0 with
  | nil => cases f0; simp [flagsDeepList, Fl.join, Fl.none]
  | cons a as ih => rw [List.foldl_cons, ih, flagsDeepList]; simp [Fl.join, Bool.or_assoc]

theorem callFunc_ok {spec : FuncSpec} {args : List Val} {v : Val} (h : callFunc spec args = .ok v) :
    args.any Val.isNull = false ∧ ∃ r, v = r.withFl (flagsDeepList args) ∧
      if args.any (fun a => a.typeOf == .dyn) then r = Val.unk Fl.none .dyn
      else if args.any (fun a => !a.isKnown) then r = Val.unk Fl.none (spec.retTy (args.map Val.unmarkDeep))
      else spec.impl (args.map Val.unmarkDeep) = .ok r := by
  unfold callFunc at h
  rw [fold_flags, show ∀ a : Fl, Fl.none.join a = a from fun a => by cases a; rfl] at h
  cases hn : args.any Val.isNull
  · refine ⟨rfl, ?_⟩
    simp only [hn, Bool.false_eq_true, if_false] at h
    by_cases hd : (args.any fun a => a.typeOf == .dyn) = true
    · simp only [hd, if_true] at h ⊢; cases h; exact ⟨_, rfl, rfl⟩
    · simp only [hd] at h ⊢
      by_cases hk : (args.any fun a => !a.isKnown) = true
      · simp only [hk, if_true] at h ⊢; cases h; exact ⟨_, rfl, rfl⟩
      · simp only [hk] at h ⊢
        cases e : spec.impl (args.map Val.unmarkDeep) with
        | error x => rw [e] at h; cases h
        | ok r => rw [e] at h; cases h; exact ⟨r, rfl, rfl⟩
  · rw [hn, if_pos rfl] at h; cases h

def nextParam (spec : FuncSpec) (ps : List Ty) : Option Ty × List Ty :=
  match ps with
  | p :: ps' => (some p, ps')
  | [] => (spec.varParam, [])

theorem convertArgs_cons (spec : FuncSpec) (v : Val) (vs : List Val) (ps : List Ty) :
    convertArgs spec (v :: vs) ps =
      match (nextParam spec ps).1 with
      | none => (v :: (convertArgs spec vs (nextParam spec ps).2).1, (convertArgs spec vs (nextParam spec ps).2).2)
      | some t =>
        match tryConvert v t with
        | .ok v' => (v' :: (convertArgs spec vs (nextParam spec ps).2).1, (convertArgs spec vs (nextParam spec ps).2).2)
        | .error d => (v :: (convertArgs spec vs (nextParam spec ps).2).1,
            (if d.isUnsupported then d else ⟨"Invalid function argument", []⟩) :: (convertArgs spec vs (nextParam spec ps).2).2) := by
  rw [convertArgs.eq_def]; rfl

def expandElems (ev : Val) : List Val := match ev with | .list _ _ xs => xs | .tuple _ xs => xs | _ => []

theorem expandOut_cases (ev : Val) (ed : List Diag) :
    (∃ ds, expandOut (ev, ed) = .error (Val.dynVal, ds) ∧
      (ds = [] → ed = [] ∧ ev.isNull = false ∧ ((ev.typeOf == .dyn) = true ∨ ev.isKnown = false))) ∨
    (expandOut (ev, ed) = .ok ((expandElems ev).map (fun x => x.withFl ev.fl), ed) ∧
      ev.isNull = false ∧ ev.isKnown = true ∧ (ev.typeOf == .dyn) = false) := by
  unfold expandOut
  simp only []
  by_cases he : hasErrors ed = true
  · rw [if_pos he]
    exact .inl ⟨_, rfl, fun h => by rw [h] at he; simp [hasErrors] at he⟩
  rw [if_neg he]
  cases hd : (ev.typeOf == Ty.dyn)
  · rw [if_neg (by simp)]
    split
    case h_3 => exact .inl ⟨_, rfl, fun h => by simp at h⟩
    -- the two sequence types are treated alike
    all_goals
      cases hn : ev.isNull
      · cases hk : ev.isKnown
        · exact .inl ⟨_, rfl, fun h => ⟨h, rfl, .inr rfl⟩⟩
        · refine .inr ⟨?_, rfl, rfl, rfl⟩
          cases ev <;> rfl
      · exact .inl ⟨_, rfl, fun h => by simp at h⟩
  · rw [if_pos rfl]
    cases ev.isNull
    · exact .inl ⟨_, rfl, fun h => ⟨h, rfl, .inl rfl⟩⟩
    · exact .inl ⟨_, rfl, fun h => by simp at h⟩

theorem expandOut_ok {ev : Val} {ed : List Diag} {xs : List Val} {d : List Diag}
    (h : expandOut (ev, ed) = .ok (xs, d)) :
    xs = (expandElems ev).map (fun x => x.withFl ev.fl) ∧ ev.isKnown = true ∧ (ev.typeOf == .dyn) = false := by
  rcases expandOut_cases ev ed with ⟨ds, e, _⟩ | ⟨e, _, hk, hd⟩ <;> rw [e] at h <;> cases h
  exact ⟨rfl, hk, hd⟩

theorem expandOut_ok_diags {ev : Val} {ed : List Diag} {xs : List Val} {d : List Diag}
    (h : expandOut (ev, ed) = .ok (xs, d)) : d = ed := by
  rcases expandOut_cases ev ed with ⟨ds, e, _⟩ | ⟨e, _⟩ <;> rw [e] at h <;> cases h
  rfl

/-- The items of an expanded last argument are those of a splat.  `expandOut_cases`, `expandOut_ok` and
    `expandArg_some` speak of `expandElems`, in which `Stable` (`Proofs/MarksStable.lean`) puts its condition on such
    a call; `expandArg_ok` of `splatItems`, so that what is known of the items of a splat applies to its `x`. -/
theorem expandElems_eq (v : Val) : expandElems v = splatItems v := by cases v <;> rfl

theorem expandArg_some (o : Out) :
    (∃ ds, expandArg (some o) = .error (Val.dynVal, ds) ∧
      (ds = [] → o.2 = [] ∧ o.1.isNull = false ∧ ((o.1.typeOf == .dyn) = true ∨ o.1.isKnown = false))) ∨
    (expandArg (some o) = .ok ((expandElems o.1).map (fun x => x.withFl o.1.fl), o.2) ∧
      o.1.isNull = false ∧ o.1.isKnown = true ∧ (o.1.typeOf == .dyn) = false) :=
  expandOut_cases _ _

theorem expandArg_ok {eo : Option Out} {extra : List Val} {ed : List Diag} (h : expandArg eo = .ok (extra, ed)) :
    ∀ v ∈ extra, ∃ o x, eo = some o ∧ ed = o.2 ∧ x ∈ splatItems o.1 ∧ v = x.withFl o.1.fl := by
  cases eo with
  | none => cases h; intro v hv; cases hv
  | some o =>
    rcases expandArg_some o with ⟨ds, e, -⟩ | ⟨e, -⟩ <;> rw [e] at h <;> cases h
    intro v hv
    obtain ⟨x, hx, rfl⟩ := List.mem_map.mp hv
    exact ⟨o, x, rfl, rfl, expandElems_eq _ ▸ hx, rfl⟩

theorem expandArg_error {eo : Option Out} {r : Out} (h : expandArg eo = .error r) :
    r.1 = Val.dynVal ∧ (r.2 = [] → ∃ o, eo = some o ∧ o.2 = [] ∧ o.1.isNull = false ∧
      (o.1.typeOf = .dyn ∨ o.1.isKnown = false)) := by
  cases eo with
  | none => cases h
  | some o =>
    rcases expandArg_some o with ⟨ds, e, hds⟩ | ⟨e, -⟩ <;> rw [e] at h <;> cases h
    exact ⟨rfl, fun e => ⟨o, rfl, (hds e).1, (hds e).2.1, (hds e).2.2.imp (by simpa using ·) id⟩⟩

theorem callOut_error (spec : FuncSpec) (o : Out) (outs : List Out) : callOut spec (.error o) outs = o := rfl

theorem callOut_clean {spec : FuncSpec} {extra : List Val} {ed : List Diag} {outs : List Out}
    (h : (callOut spec (.ok (extra, ed)) outs).2 = []) :
    ed = [] ∧ (∀ o ∈ outs, o.2 = []) ∧ (convertArgs spec (outs.map (·.1) ++ extra) spec.params).2 = [] ∧
      ∃ v, callFunc spec (convertArgs spec (outs.map (·.1) ++ extra) spec.params).1 = .ok v ∧
        callOut spec (.ok (extra, ed)) outs = (v, []) := by
  unfold callOut at h ⊢
  simp only [] at h ⊢
  split at h
  · simp at h
  split at h
  · simp at h
  rename_i hn1 hn2
  simp only [hn1, hn2, if_false]
  generalize hds : ed ++ outs.flatMap (·.2) ++ (convertArgs spec (outs.map (·.1) ++ extra) spec.params).2 = ds at h ⊢
  cases ds with
  | cons d ds => simp [hasErrors] at h
  | nil =>
    simp only [List.append_eq_nil_iff, List.flatMap_eq_nil_iff] at hds
    refine ⟨hds.1.1, hds.1.2, hds.2, ?_⟩
    cases hv : callFunc spec (convertArgs spec (outs.map (·.1) ++ extra) spec.params).1 with
    | ok v => exact ⟨v, rfl, rfl⟩
    | error e => rw [hv] at h; cases e <;> simp [hasErrors] at h

theorem callOut_expand_nil {spec : FuncSpec} {eo : Out} {outs : List Out}
    (h : (callOut spec (expandOut eo) outs).2 = []) : eo.2 = [] := by
  obtain ⟨ev, ed⟩ := eo
  rcases expandOut_cases ev ed with ⟨ds, e, n⟩ | ⟨e, _⟩ <;> rw [e] at h
  · exact (n h).1
  · exact (callOut_clean h).1

theorem callOut_outs_nil {spec : FuncSpec} {x : Except Out (List Val × List Diag)} {outs : List Out}
    (h : (callOut spec x outs).2 = []) (hx : ∀ o, x ≠ .error o) : ∀ o ∈ outs, o.2 = [] := by
  cases x with
  | error o => exact absurd rfl (hx o)
  | ok p =>
    obtain ⟨xs, d⟩ := p
    exact (callOut_clean h).2.1

theorem gated_of {α : Type} {P : ForSt → Prop} {g : ForSt × Option α} {body : α → ForSt → ForSt} (h : P g.1)
    (hb : ∀ a, g.2 = some a → P (body a g.1)) : P (gated g body) := by
  unfold gated
  split
  · exact hb _ ‹_›
  · exact h

theorem idxFrom_mem (kf : Fl) : ∀ (xs : List Val) (n : Nat) (p : Val × Val), p ∈ idxFrom kf n xs →
    (∃ m : Nat, p.1 = Val.num kf (m : Rat)) ∧ p.2 ∈ xs
  | [], _, _, h => by simp [idxFrom] at h
  | x :: xs, n, p, h => by
    simp only [idxFrom, List.mem_cons] at h
    rcases h with rfl | h
    · exact ⟨⟨n, rfl⟩, by simp⟩
    · obtain ⟨h1, h2⟩ := idxFrom_mem kf xs (n + 1) p h
      exact ⟨h1, by simp [h2]⟩

theorem keyed_mem (kf : Fl) (kvs : List (String × Val)) (p : Val × Val) (h : p ∈ keyed kf kvs) :
    ∃ k, p.1 = Val.str kf k ∧ (k, p.2) ∈ kvs := by
  unfold keyed at h
  obtain ⟨⟨k, x⟩, hq, rfl⟩ := List.mem_map.mp h
  exact ⟨k, rfl, hq⟩

end HclModel.Proofs
