import Proofs.MarksStable
/-!
# C06: noninterference of expression evaluation
-/
namespace HclModel.Proofs
open Val

theorem relEnv_lookup : ∀ {ρ σ : Env}, relEnv ρ σ → ∀ x,
    (ρ.lookup x = none ∧ σ.lookup x = none) ∨ ∃ a b, ρ.lookup x = some a ∧ σ.lookup x = some b ∧ relV a b = true
  | [], [], _, x => by simp [Env.lookup, lookupKey]
  | [], _ :: _, h, _ => by simp [relEnv] at h
  | _ :: _, [], h, _ => by simp [relEnv] at h
  | (k, a) :: ρ, (l, b) :: σ, h, x => by
    simp only [relEnv] at h
    obtain ⟨rfl, hab, hr⟩ := h
    simp only [Env.lookup, lookupKey]
    by_cases hx : x = k
    · right; exact ⟨a, b, by simp [hx], by simp [hx], hab⟩
    · simpa [hx, Env.lookup] using relEnv_lookup hr x

theorem relEnv_cons {ρ σ : Env} (x : String) {a b : Val} (hab : relV a b = true) (h : relEnv ρ σ) :
    relEnv ((x, a) :: ρ) ((x, b) :: σ) := by
  simp [relEnv, hab, h]

theorem relEnv_bindIter {ρ σ : Env} (kv vv : String) {k k' v v' : Val} (hk : relV k k' = true)
    (hv : relV v v' = true) (h : relEnv ρ σ) : relEnv (bindIter ρ kv vv k v) (bindIter σ kv vv k' v') := by
  unfold bindIter
  split
  · exact relEnv_cons _ hv h
  · exact relEnv_cons _ hv (relEnv_cons _ hk h)

/-- what `noninterference_partial` claims of an expression in two scopes -/
abbrev NI (F : Funcs) (e : Expr) (ρ σ : Env) : Prop :=
  relEnv ρ σ → Stable (strictCx F) e ρ σ → RelOut (eval (strictCx F) ρ e) (eval (strictCx F) σ e)

/-- the two clauses of `Stable` for a `for` expression, with and without a condition, read as one -/
theorem stable_forTuple {F : Cx} {kv vv : String} {coll val : Expr} {cond : Option Expr} {ρ σ : Env}
    (hs : Stable F (.forTuple kv vv coll val cond) ρ σ) :
    Stable F coll ρ σ ∧ shapeEq (eval F ρ coll).1 (eval F σ coll).1 ∧
    (¬ bm (eval F ρ coll).1 (eval F σ coll).1 →
      ∀ p ∈ (iterEls (eval F ρ coll).1).zip (iterEls (eval F σ coll).1),
        Stable F val (bindIter ρ kv vv p.1.1 p.1.2) (bindIter σ kv vv p.2.1 p.2.2) ∧
        ∀ ce, cond = some ce → Stable F ce (bindIter ρ kv vv p.1.1 p.1.2) (bindIter σ kv vv p.2.1 p.2.2)) := by
  cases cond with
  | none =>
    simp only [Stable] at hs
    exact ⟨hs.1, hs.2.1, fun hb p hp => ⟨hs.2.2 hb p hp, fun _ hc => nomatch hc⟩⟩
  | some ce =>
    simp only [Stable] at hs
    exact ⟨hs.1, hs.2.1, fun hb p hp => ⟨(hs.2.2 hb p hp).1, fun _ hc => by cases hc; exact (hs.2.2 hb p hp).2⟩⟩

theorem stable_forObject {F : Cx} {kv vv : String} {coll key val : Expr} {cond : Option Expr} {g : Bool} {ρ σ : Env}
    (hs : Stable F (.forObject kv vv coll key val cond g) ρ σ) :
    Stable F coll ρ σ ∧ shapeEq (eval F ρ coll).1 (eval F σ coll).1 ∧
    (¬ bm (eval F ρ coll).1 (eval F σ coll).1 →
      ∀ p ∈ (iterEls (eval F ρ coll).1).zip (iterEls (eval F σ coll).1),
        Stable F key (bindIter ρ kv vv p.1.1 p.1.2) (bindIter σ kv vv p.2.1 p.2.2) ∧
        Stable F val (bindIter ρ kv vv p.1.1 p.1.2) (bindIter σ kv vv p.2.1 p.2.2) ∧
        ∀ ce, cond = some ce → Stable F ce (bindIter ρ kv vv p.1.1 p.1.2) (bindIter σ kv vv p.2.1 p.2.2)) := by
  cases cond with
  | none =>
    simp only [Stable] at hs
    exact ⟨hs.1, hs.2.1, fun hb p hp => ⟨(hs.2.2 hb p hp).1, (hs.2.2 hb p hp).2, fun _ hc => nomatch hc⟩⟩
  | some ce =>
    simp only [Stable] at hs
    exact ⟨hs.1, hs.2.1, fun hb p hp =>
      ⟨(hs.2.2 hb p hp).1, (hs.2.2 hb p hp).2.1, fun _ hc => by cases hc; exact (hs.2.2 hb p hp).2.2⟩⟩

theorem forTuple_ni (F : Funcs) (kv vv : String) (coll val : Expr) (cond : Option Expr) (ρ σ : Env)
    (hcoll : NI F coll ρ σ) (hval : ∀ ρ' σ', NI F val ρ' σ') (hcond : ∀ ce, cond = some ce → ∀ ρ' σ', NI F ce ρ' σ') :
    NI F (.forTuple kv vv coll val cond) ρ σ := by
  intro hρ hs h1 h2
  obtain ⟨s1, s2, s3⟩ := stable_forTuple hs
  simp only [eval_forTuple] at h1 h2 ⊢
  refine forOut_rel
    (hcoll hρ s1 (forOut_ready forTupleFin_diags (forTupleStep_le _ _) h1).1
      (forOut_ready forTupleFin_diags (forTupleStep_le _ _) h2).1)
    s2 forTupleFin_diags (forTupleStep_le _ _) (forTupleStep_le _ _) forTupleFin_marked forTupleFin_rel ?_ h1 h2
  intro hb els els' e1 e2 p hp hrel st st' hl d1 d2
  obtain ⟨t1, t2⟩ := s3 hb p (by simp only [iterEls, e1, e2, Option.getD_some]; exact hp)
  have hρ' := relEnv_bindIter kv vv hrel.1 hrel.2 hρ
  exact forTupleStep_inv _ _ _ _ cond st st' p.1 p.2 (hval _ _ hρ' t1)
    (fun ce hc => hcond ce hc _ _ hρ' (t2 ce hc)) hl d1 d2

theorem forObject_ni (F : Funcs) (kv vv : String) (coll key val : Expr) (cond : Option Expr) (g : Bool) (ρ σ : Env)
    (hcoll : NI F coll ρ σ) (hkey : ∀ ρ' σ', NI F key ρ' σ') (hval : ∀ ρ' σ', NI F val ρ' σ')
    (hcond : ∀ ce, cond = some ce → ∀ ρ' σ', NI F ce ρ' σ') :
    NI F (.forObject kv vv coll key val cond g) ρ σ := by
  intro hρ hs h1 h2
  obtain ⟨s1, s2, s3⟩ := stable_forObject hs
  simp only [eval_forObject] at h1 h2 ⊢
  refine forOut_rel
    (hcoll hρ s1 (forOut_ready (forObjectFin_diags g) (forObjectStep_le _ _ _ _) h1).1
      (forOut_ready (forObjectFin_diags g) (forObjectStep_le _ _ _ _) h2).1)
    s2 (forObjectFin_diags g) (forObjectStep_le _ _ _ _) (forObjectStep_le _ _ _ _) (forObjectFin_marked g)
    (forObjectFin_rel g) ?_ h1 h2
  intro hb els els' e1 e2 p hp hrel st st' hl d1 d2
  obtain ⟨t1, t2, t3⟩ := s3 hb p (by simp only [iterEls, e1, e2, Option.getD_some]; exact hp)
  have hρ' := relEnv_bindIter kv vv hrel.1 hrel.2 hρ
  exact forObjectStep_inv g _ _ _ _ _ _ cond st st' p.1 p.2 (hkey _ _ hρ' t1) (hval _ _ hρ' t2)
    (fun ce hc => hcond ce hc _ _ hρ' (t3 ce hc)) hl d1 d2

mutual
theorem ni_eval (F : Funcs) (hF : LawfulFuncs F) : ∀ (e : Expr) (ρ σ : Env), NI F e ρ σ
  | .lit v, ρ, σ, _, _, _, _ => by simp [eval_lit, relV_refl]
  | .var x, ρ, σ, hρ, _, h1, h2 => by
    simp only [eval_var] at h1 h2 ⊢
    rcases relEnv_lookup hρ x with ⟨e1, e2⟩ | ⟨a, b, e1, e2, hab⟩
    · simp [e1] at h1
    · simp [e1, e2, hab]
  | .getAttr e name, ρ, σ, hρ, hs, h1, h2 => by
    simp only [Stable] at hs
    simp only [eval_getAttr] at h1 h2 ⊢
    exact getAttrOut_rel _ _ name (ni_eval F hF e ρ σ hρ hs (getAttrOut_nil h1).1 (getAttrOut_nil h2).1) h1 h2
  | .index e k, ρ, σ, hρ, hs, h1, h2 => by
    simp only [Stable] at hs
    simp only [eval_index] at h1 h2 ⊢
    have a := indexOut_nil h1
    have b := indexOut_nil h2
    exact indexOut_rel _ _ _ _ (ni_eval F hF e ρ σ hρ hs.1 a.1 b.1) (ni_eval F hF k ρ σ hρ hs.2.1 a.2.1 b.2.1)
      hs.2.2 h1 h2
  | .bin op l r, ρ, σ, hρ, hs, h1, h2 => by
    simp only [Stable] at hs
    simp only [eval_bin] at h1 h2 ⊢
    have a := evalBin_diags h1
    have b := evalBin_diags h2
    exact evalBin_rel op _ _ _ _ (ni_eval F hF l ρ σ hρ hs.1 a.1 b.1) (ni_eval F hF r ρ σ hρ hs.2 a.2 b.2) h1 h2
  | .un op e, ρ, σ, hρ, hs, h1, h2 => by
    simp only [Stable] at hs
    simp only [eval_un] at h1 h2 ⊢
    exact evalUn_rel op _ _ (ni_eval F hF e ρ σ hρ hs.1 (evalUn_diags h1) (evalUn_diags h2)) hs.2 h1 h2
  | .cond c t f, ρ, σ, hρ, hs, h1, h2 => by
    simp only [Stable] at hs
    simp only [eval_cond] at h1 h2 ⊢
    have a := evalCond_diags h1
    have b := evalCond_diags h2
    exact evalCond_rel _ _ _ _ _ _ (ni_eval F hF c ρ σ hρ hs.1 a.1 b.1) (ni_eval F hF t ρ σ hρ hs.2.1 a.2.1 b.2.1)
      (ni_eval F hF f ρ σ hρ hs.2.2.1 a.2.2 b.2.2) hs.2.2.2 h1 h2
  | .tuple es, ρ, σ, hρ, hs, h1, h2 => by
    simp only [Stable] at hs
    simp only [eval_tuple] at h1 h2 ⊢
    simp only [relV]
    simp [ni_list F hF es ρ σ hρ hs h1 h2]
  | .object items, ρ, σ, hρ, hs, h1, h2 => by
    simp only [Stable] at hs
    simp only [eval_object] at h1 h2 ⊢
    rw [objectOut_diags] at h1 h2
    exact objectOut_rel (ni_items F hF items ρ σ hρ hs h1 h2)
  | .forTuple kv vv coll val cond, ρ, σ, hρ, hs, h1, h2 =>
    forTuple_ni F kv vv coll val cond ρ σ (ni_eval F hF coll ρ σ) (ni_eval F hF val)
      (match cond with
       | none => fun _ hc => nomatch hc
       | some ce => fun _ hc => by cases hc; exact ni_eval F hF ce) hρ hs h1 h2
  | .forObject kv vv coll key val cond g, ρ, σ, hρ, hs, h1, h2 =>
    forObject_ni F kv vv coll key val cond g ρ σ (ni_eval F hF coll ρ σ) (ni_eval F hF key) (ni_eval F hF val)
      (match cond with
       | none => fun _ hc => nomatch hc
       | some ce => fun _ hc => by cases hc; exact ni_eval F hF ce) hρ hs h1 h2
  | .splat anon src each, ρ, σ, hρ, hs, h1, h2 => by
    simp only [Stable] at hs
    rw [eval_splat] at hs
    rw [eval_splat] at hs
    simp only [eval_splat] at h1 h2 ⊢
    refine splatOut_rel ?_ ?_ ?_ h1 h2
    · exact ni_eval F hF src ρ σ hρ hs.1 (splatOut_nil h1) (splatOut_nil h2)
    · exact hs.2.1
    · intro hb p hp hrel d1 d2
      exact ni_eval F hF each _ _ (relEnv_cons anon hrel hρ) (hs.2.2 hb p hp) d1 d2
  | .template parts, ρ, σ, hρ, hs, h1, h2 => by
    simp only [Stable] at hs
    simp only [eval_template] at h1 h2 ⊢
    exact template_rel (ni_each F hF parts ρ σ hρ hs (template_nil _ h1) (template_nil _ h2)) h1 h2
  | .tjoin t, ρ, σ, hρ, hs, h1, h2 => by
    simp only [Stable] at hs
    simp only [eval_tjoin] at h1 h2 ⊢
    exact tjoinOut_rel (ni_eval F hF t ρ σ hρ hs.1 (tjoinOut_nil h1) (tjoinOut_nil h2)) hs.2.1 hs.2.2 h1 h2
  | .call fn args expand, ρ, σ, hρ, hs, h1, h2 => by
    simp only [eval_call] at h1 h2 ⊢
    simp only [strictCx] at h1 h2 ⊢
    cases hfn : F fn with
    | none => simp [hfn] at h1
    | some spec =>
      simp only [hfn] at h1 h2 ⊢
      refine callOut_rel hF hfn ?_ ?_ h1 h2
      · intro n1 n2
        refine ni_each F hF args ρ σ hρ ?_ (callOut_outs_nil h1 n1) (callOut_outs_nil h2 n2)
        cases expand with
        | none => exact hs
        | some le => exact hs.1
      · match expand with
        | none => left; simp [relL]
        | some le =>
          simp only [Stable] at hs
          exact expandOut_ExpRel _ _ (ni_eval F hF le ρ σ hρ hs.2.1 (callOut_expand_nil h1) (callOut_expand_nil h2))
            hs.2.2.1 hs.2.2.2
theorem ni_list (F : Funcs) (hF : LawfulFuncs F) : ∀ (es : List Expr) (ρ σ : Env), relEnv ρ σ →
    StableList (strictCx F) es ρ σ → (evalList (strictCx F) ρ es).2 = [] → (evalList (strictCx F) σ es).2 = [] →
    relL (evalList (strictCx F) ρ es).1 (evalList (strictCx F) σ es).1 = true
  | [], _, _, _, _, _, _ => by simp [evalList, relL]
  | e :: es, ρ, σ, hρ, hs, h1, h2 => by
    simp only [StableList] at hs
    rw [evalList_cons] at h1 h2 ⊢
    rw [evalList_cons]
    simp only [List.append_eq_nil_iff] at h1 h2
    simp only [relL, Bool.and_eq_true]
    exact ⟨ni_eval F hF e ρ σ hρ hs.1 h1.1 h2.1, ni_list F hF es ρ σ hρ hs.2 h1.2 h2.2⟩
theorem ni_each (F : Funcs) (hF : LawfulFuncs F) : ∀ (es : List Expr) (ρ σ : Env), relEnv ρ σ →
    StableList (strictCx F) es ρ σ → (∀ o ∈ evalEach (strictCx F) ρ es, o.2 = []) →
    (∀ o ∈ evalEach (strictCx F) σ es, o.2 = []) →
    relOuts (evalEach (strictCx F) ρ es) (evalEach (strictCx F) σ es)
  | [], _, _, _, _, _, _ => by simp only [evalEach]; exact .nil
  | e :: es, ρ, σ, hρ, hs, h1, h2 => by
    simp only [StableList] at hs
    rw [evalEach_cons] at h1 h2 ⊢
    rw [evalEach_cons]
    exact .cons (ni_eval F hF e ρ σ hρ hs.1 (h1 _ (by simp)) (h2 _ (by simp)))
      (ni_each F hF es ρ σ hρ hs.2 (fun o ho => h1 o (by simp [ho])) (fun o ho => h2 o (by simp [ho])))
theorem ni_items (F : Funcs) (hF : LawfulFuncs F) : ∀ (items : List (Expr × Expr)) (ρ σ : Env), relEnv ρ σ →
    StableItems (strictCx F) items ρ σ → (evalItems (strictCx F) ρ items).1.diags = [] →
    (evalItems (strictCx F) σ items).1.diags = [] →
    IInv (evalItems (strictCx F) ρ items) (evalItems (strictCx F) σ items)
  | [], _, _, _, _, _, _ => by simp only [evalItems]; exact IInv_init
  | (ke, ve) :: rest, ρ, σ, hρ, hs, h1, h2 => by
    simp only [StableItems] at hs
    rw [evalItems_cons] at h1 h2 ⊢
    rw [evalItems_cons]
    obtain ⟨a1, a2, a3, -⟩ := itemStep_clean h1
    obtain ⟨b1, b2, b3, -⟩ := itemStep_clean h2
    exact itemStep_inv (ni_items F hF rest ρ σ hρ hs.2.2.2 a3 b3) (ni_eval F hF ke ρ σ hρ hs.1 a1 b1) hs.2.2.1
      (ni_eval F hF ve ρ σ hρ hs.2.1 a2 b2) h1 h2
end

end HclModel.Proofs
