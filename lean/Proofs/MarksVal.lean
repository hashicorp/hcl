import HclModel.Expr.Rel
import Proofs.ValueConvert
/-!
Value-level lemmas for C06: `relV` / `relL` / `relF` and their reading `relC` at the top node; related values
that differ after erasure are marked, values equal after erasure are related.
-/
namespace HclModel.Proofs
open Val

/-- same constructor, equal content at the top, related children -/
def relC : Val → Val → Bool
  | .unk _ t, .unk _ u => t == u
  | .null _ t, .null _ u => t == u
  | .str _ s, .str _ s' => s == s'
  | .num _ q, .num _ q' => q == q'
  | .bool _ b, .bool _ b' => b == b'
  | .list _ t xs, .list _ u ys => t == u && relL xs ys
  | .tuple _ xs, .tuple _ ys => relL xs ys
  | .map _ t xs, .map _ u ys => t == u && relF xs ys
  | .object _ xs, .object _ ys => relF xs ys
  | _, _ => false

/-- `relC` as a relation, for case analysis -/
inductive RelC : Val → Val → Prop
  | unk (f g : Fl) (t : Ty) : RelC (.unk f t) (.unk g t)
  | null (f g : Fl) (t : Ty) : RelC (.null f t) (.null g t)
  | str (f g : Fl) (s : String) : RelC (.str f s) (.str g s)
  | num (f g : Fl) (q : Rat) : RelC (.num f q) (.num g q)
  | bool (f g : Fl) (b : Bool) : RelC (.bool f b) (.bool g b)
  | list (f g : Fl) (t : Ty) {xs ys : List Val} : relL xs ys = true → RelC (.list f t xs) (.list g t ys)
  | tuple (f g : Fl) {xs ys : List Val} : relL xs ys = true → RelC (.tuple f xs) (.tuple g ys)
  | map (f g : Fl) (t : Ty) {xs ys : List (String × Val)} : relF xs ys = true → RelC (.map f t xs) (.map g t ys)
  | object (f g : Fl) {xs ys : List (String × Val)} : relF xs ys = true → RelC (.object f xs) (.object g ys)

theorem relC_view {a b : Val} (h : relC a b = true) : RelC a b := by
  cases a <;> cases b <;> simp [relC] at h
  · subst h; exact .unk ..
  · subst h; exact .null ..
  · subst h; exact .str ..
  · subst h; exact .num ..
  · subst h; exact .bool ..
  · obtain ⟨rfl, h⟩ := h; exact .list _ _ _ h
  · obtain ⟨rfl, h⟩ := h; exact .map _ _ _ h
  · exact .tuple _ _ h
  · exact .object _ _ h

/-- pair by pair the two sides are the same term, or differ by `|| false` -/
theorem relV_eq (a b : Val) : relV a b = ((a.fl.m && b.fl.m) || relC a b) := by
  cases a <;> cases b <;> first | rfl | exact (Bool.or_false _).symm

/-- marked in both runs -/
def bm (a b : Val) : Prop := a.fl.m = true ∧ b.fl.m = true

theorem relV_top {a b : Val} (h : a.fl.m = true) (h' : b.fl.m = true) : relV a b = true := by
  simp [relV_eq, h, h']

theorem relV_of_relC {a b : Val} (h : relC a b = true) : relV a b = true := by
  simp [relV_eq, h]

theorem relV_cases {a b : Val} (h : relV a b = true) : bm a b ∨ relC a b = true := by
  simpa [relV_eq, bm] using h

theorem relC_of_not_bm {a b : Val} (h : relV a b = true) (hb : ¬ bm a b) : relC a b = true :=
  (relV_cases h).resolve_left hb

@[simp] theorem relC_setFl (a b : Val) (f g : Fl) : relC (a.setFl f) (b.setFl g) = relC a b := by
  cases a <;> cases b <;> rfl

theorem relC_isKnown {a b : Val} (h : relC a b = true) : a.isKnown = b.isKnown := by
  cases relC_view h <;> rfl

theorem relC_isNull {a b : Val} (h : relC a b = true) : a.isNull = b.isNull := by
  cases relC_view h <;> rfl

theorem relV_withFl {a b : Val} (h : relV a b = true) (f g : Fl) :
    relV (a.withFl f) (b.withFl g) = true := by
  rcases relV_cases h with ⟨h1, h2⟩ | h
  · apply relV_top <;> simp [h1, h2]
  · apply relV_of_relC; simp [withFl, h]

theorem relV_withFl_top (a b : Val) {f g : Fl} (hf : f.m = true) (hg : g.m = true) :
    relV (a.withFl f) (b.withFl g) = true := by
  apply relV_top <;> simp [hf, hg]

theorem relV_setFl {a b : Val} (h : relV a b = true) (f g : Fl)
    (hm : a.fl.m = true → b.fl.m = true → (f.m = true ∧ g.m = true)) :
    relV (a.setFl f) (b.setFl g) = true := by
  rcases relV_cases h with ⟨h1, h2⟩ | h
  · apply relV_top <;> simp [hm h1 h2]
  · apply relV_of_relC; simp [h]

mutual
theorem relV_refl : ∀ a : Val, relV a a = true
  | .unk _ _ | .null _ _ | .str _ _ | .num _ _ | .bool _ _ => by simp [relV]
  | .list _ _ xs => by simp [relV, relL_refl xs]
  | .tuple _ xs => by simp [relV, relL_refl xs]
  | .map _ _ xs => by simp [relV, relF_refl xs]
  | .object _ xs => by simp [relV, relF_refl xs]
theorem relL_refl : ∀ xs : List Val, relL xs xs = true
  | [] => by simp [relL]
  | x :: xs => by simp [relL, relV_refl x, relL_refl xs]
theorem relF_refl : ∀ xs : List (String × Val), relF xs xs = true
  | [] => by simp [relF]
  | (k, x) :: xs => by simp [relF, relV_refl x, relF_refl xs]
end

theorem relC_refl (a : Val) : relC a a = true := by
  cases a <;> simp [relC, relL_refl, relF_refl]

theorem relL_length : ∀ {xs ys : List Val}, relL xs ys = true → xs.length = ys.length
  | [], [], _ => rfl
  | [], _ :: _, h => by simp [relL] at h
  | _ :: _, [], h => by simp [relL] at h
  | _ :: xs, _ :: ys, h => by
    simp only [relL, Bool.and_eq_true] at h
    simp [relL_length h.2]

theorem relF_length : ∀ {xs ys : List (String × Val)}, relF xs ys = true → xs.length = ys.length
  | [], [], _ => rfl
  | [], _ :: _, h => by simp [relF] at h
  | _ :: _, [], h => by simp [relF] at h
  | (_, _) :: xs, (_, _) :: ys, h => by
    simp only [relF, Bool.and_eq_true] at h
    simp [relF_length h.2]

theorem relL_getElem? : ∀ {xs ys : List Val}, relL xs ys = true → ∀ i : Nat,
    (xs[i]? = none ∧ ys[i]? = none) ∨ ∃ x y, xs[i]? = some x ∧ ys[i]? = some y ∧ relV x y = true
  | [], [], _, i => by simp
  | [], _ :: _, h, _ => by simp [relL] at h
  | _ :: _, [], h, _ => by simp [relL] at h
  | x :: xs, y :: ys, h, i => by
    simp only [relL, Bool.and_eq_true] at h
    cases i with
    | zero => right; exact ⟨x, y, by simp, by simp, h.1⟩
    | succ i => simpa using relL_getElem? h.2 i

theorem relF_lookup : ∀ {xs ys : List (String × Val)}, relF xs ys = true → ∀ k,
    (lookupKey k xs = none ∧ lookupKey k ys = none) ∨
      ∃ x y, lookupKey k xs = some x ∧ lookupKey k ys = some y ∧ relV x y = true
  | [], [], _, k => by simp [lookupKey]
  | [], _ :: _, h, _ => by simp [relF] at h
  | _ :: _, [], h, _ => by simp [relF] at h
  | (k1, x) :: xs, (k2, y) :: ys, h, k => by
    simp only [relF, Bool.and_eq_true, beq_iff_eq] at h
    obtain ⟨⟨rfl, hxy⟩, hr⟩ := h
    simp only [lookupKey]
    by_cases hk : k = k1
    · right; exact ⟨x, y, by simp [hk], by simp [hk], hxy⟩
    · simpa [hk] using relF_lookup hr k

theorem relL_append : ∀ {xs ys xs' ys' : List Val}, relL xs ys = true → relL xs' ys' = true →
    relL (xs ++ xs') (ys ++ ys') = true
  | [], [], _, _, _, h => by simpa using h
  | [], _ :: _, _, _, h, _ => by simp [relL] at h
  | _ :: _, [], _, _, h, _ => by simp [relL] at h
  | x :: xs, y :: ys, _, _, h, h' => by
    simp only [relL, Bool.and_eq_true] at h
    simp [relL, h.1, relL_append h.2 h']

theorem relL_map (f g : Val → Val) : ∀ {xs ys : List Val}, relL xs ys = true →
    (∀ p ∈ xs.zip ys, relV p.1 p.2 = true → relV (f p.1) (g p.2) = true) → relL (xs.map f) (ys.map g) = true
  | [], [], _, _ => by simp [relL]
  | [], _ :: _, h, _ => by simp [relL] at h
  | _ :: _, [], h, _ => by simp [relL] at h
  | x :: xs, y :: ys, h, hf => by
    simp only [relL, Bool.and_eq_true] at h
    simp only [List.map_cons, relL, Bool.and_eq_true]
    exact ⟨hf (x, y) (by simp) h.1, relL_map f g h.2 fun p hp => hf p (by simp [hp])⟩

theorem relF_typeOf_keys : ∀ {xs ys : List (String × Val)}, relF xs ys = true → ∀ k,
    (lookupKey k (typeOfFields xs)).isSome = (lookupKey k (typeOfFields ys)).isSome
  | [], [], _, k => by simp [typeOfFields, lookupKey]
  | [], _ :: _, h, _ => by simp [relF] at h
  | _ :: _, [], h, _ => by simp [relF] at h
  | (k1, x) :: xs, (k2, y) :: ys, h, k => by
    simp only [relF, Bool.and_eq_true, beq_iff_eq] at h
    obtain ⟨⟨rfl, _⟩, hr⟩ := h
    simp only [typeOfFields, lookupKey]
    by_cases hk : k = k1
    · simp [hk]
    · simpa [hk] using relF_typeOf_keys hr k

theorem hasMarkDeep_of_top {a : Val} (h : a.fl.m = true) : hasMarkDeep a = true := by
  cases a <;> simp_all [hasMarkDeep, Val.fl]

theorem hasMarkDeepList_of_top : ∀ (vs : List Val), vs.any (fun v => v.fl.m) = true → hasMarkDeepList vs = true
  | [], h => by simp at h
  | v :: vs, h => by
    simp only [List.any_cons, Bool.or_eq_true] at h
    simp only [hasMarkDeepList, Bool.or_eq_true]
    rcases h with h | h
    · exact Or.inl (hasMarkDeep_of_top h)
    · exact Or.inr (hasMarkDeepList_of_top vs h)

/-- the statement of `rel_differ_marked` about one value, as the induction over values needs it -/
def DifferMarked (a : Val) : Prop :=
  ∀ b, relV a b = true → eqErased a b = false → hasMarkDeep a = true ∧ hasMarkDeep b = true

theorem rel_differ_markedL_of : ∀ {xs ys : List Val}, (∀ x ∈ xs, DifferMarked x) → relL xs ys = true →
    eqErasedList xs ys = false → hasMarkDeepList xs = true ∧ hasMarkDeepList ys = true
  | [], [], _, _, hd => by simp [eqErasedList] at hd
  | [], _ :: _, _, h, _ => by simp [relL] at h
  | _ :: _, [], _, h, _ => by simp [relL] at h
  | x :: xs, y :: ys, ih, h, hd => by
    simp only [relL, Bool.and_eq_true] at h
    simp only [eqErasedList, Bool.and_eq_false_iff] at hd
    simp only [hasMarkDeepList, Bool.or_eq_true]
    rcases hd with hd | hd
    · have := ih x (by simp) y h.1 hd
      exact ⟨Or.inl this.1, Or.inl this.2⟩
    · have := rel_differ_markedL_of (fun z hz => ih z (by simp [hz])) h.2 hd
      exact ⟨Or.inr this.1, Or.inr this.2⟩

theorem rel_differ_markedF_of : ∀ {xs ys : List (String × Val)}, (∀ p ∈ xs, DifferMarked p.2) →
    relF xs ys = true → eqErasedFields xs ys = false →
    hasMarkDeepFields xs = true ∧ hasMarkDeepFields ys = true
  | [], [], _, _, hd => by simp [eqErasedFields] at hd
  | [], _ :: _, _, h, _ => by simp [relF] at h
  | _ :: _, [], _, h, _ => by simp [relF] at h
  | (k, x) :: xs, (l, y) :: ys, ih, h, hd => by
    simp only [relF, Bool.and_eq_true, beq_iff_eq] at h
    simp only [eqErasedFields, Bool.and_eq_false_iff, beq_eq_false_iff_ne] at hd
    simp only [hasMarkDeepFields, Bool.or_eq_true]
    rcases hd with (hd | hd) | hd
    · exact absurd h.1.1 hd
    · have := ih (k, x) (by simp) y h.1.2 hd
      exact ⟨Or.inl this.1, Or.inl this.2⟩
    · have := rel_differ_markedF_of (fun z hz => ih z (by simp [hz])) h.2 hd
      exact ⟨Or.inr this.1, Or.inr this.2⟩

/-- Values marked at the top carry the mark.  Otherwise they agree at the top node (`relC`) and the difference
    lies in a child. -/
theorem rel_differ_marked (a b : Val) (h : relV a b = true) (hd : Val.eqErased a b = false) :
    Val.hasMarkDeep a = true ∧ Val.hasMarkDeep b = true := by
  have top {a b : Val} (h : relV a b = true)
      (hc : relC a b = true → hasMarkDeep a = true ∧ hasMarkDeep b = true) :
      hasMarkDeep a = true ∧ hasMarkDeep b = true := by
    rcases relV_cases h with ⟨h1, h2⟩ | h
    · exact ⟨hasMarkDeep_of_top h1, hasMarkDeep_of_top h2⟩
    · exact hc h
  induction a using val_induction generalizing b with
  | leaf a hl =>
    refine top h fun hc => ?_
    cases relC_view hc <;> first | (simp [eqErased] at hd; done) | cases hl
  | list f t xs ih =>
    refine top h fun hc => ?_
    cases relC_view hc with | list _ g _ hl =>
    have := rel_differ_markedL_of ih hl (by simpa [eqErased] using hd)
    simp [hasMarkDeep, this]
  | map f t xs ih =>
    refine top h fun hc => ?_
    cases relC_view hc with | map _ g _ hl =>
    have := rel_differ_markedF_of ih hl (by simpa [eqErased] using hd)
    simp [hasMarkDeep, this]
  | tuple f xs ih =>
    refine top h fun hc => ?_
    cases relC_view hc with | tuple _ g hl =>
    have := rel_differ_markedL_of ih hl (by simpa [eqErased] using hd)
    simp [hasMarkDeep, this]
  | object f xs ih =>
    refine top h fun hc => ?_
    cases relC_view hc with | object _ g hl =>
    have := rel_differ_markedF_of ih hl (by simpa [eqErased] using hd)
    simp [hasMarkDeep, this]

theorem rel_differ_markedL (xs ys : List Val) : relL xs ys = true → eqErasedList xs ys = false →
    hasMarkDeepList xs = true ∧ hasMarkDeepList ys = true :=
  rel_differ_markedL_of fun x _ => rel_differ_marked x
theorem rel_differ_markedF : ∀ (xs ys : List (String × Val)), relF xs ys = true → eqErasedFields xs ys = false →
    hasMarkDeepFields xs = true ∧ hasMarkDeepFields ys = true :=
  fun _ _ => rel_differ_markedF_of fun p _ => rel_differ_marked p.2

mutual
theorem relV_of_eqErased : ∀ (a b : Val), eqErased a b = true → relV a b = true
  | .unk _ _, b, h | .null _ _, b, h | .str _ _, b, h | .num _ _, b, h | .bool _ _, b, h => by
    cases b <;> simp_all [eqErased, relV]
  | .list _ t xs, b, h => by
    cases b <;> simp_all [eqErased, relV]
    exact Or.inr (relL_of_eqErased xs _ h.2)
  | .tuple _ xs, b, h => by
    cases b <;> simp_all [eqErased, relV]
    exact Or.inr (relL_of_eqErased xs _ h)
  | .map _ t xs, b, h => by
    cases b <;> simp_all [eqErased, relV]
    exact Or.inr (relF_of_eqErased xs _ h.2)
  | .object _ xs, b, h => by
    cases b <;> simp_all [eqErased, relV]
    exact Or.inr (relF_of_eqErased xs _ h)
theorem relL_of_eqErased : ∀ (xs ys : List Val), eqErasedList xs ys = true → relL xs ys = true
  | [], ys, h => by cases ys <;> simp_all [eqErasedList, relL]
  | x :: xs, ys, h => by
    cases ys with
    | nil => simp [eqErasedList] at h
    | cons y ys =>
      simp only [eqErasedList, Bool.and_eq_true] at h
      simp [relL, relV_of_eqErased x y h.1, relL_of_eqErased xs ys h.2]
theorem relF_of_eqErased : ∀ (xs ys : List (String × Val)), eqErasedFields xs ys = true → relF xs ys = true
  | [], ys, h => by cases ys <;> simp_all [eqErasedFields, relF]
  | (k, x) :: xs, ys, h => by
    cases ys with
    | nil => simp [eqErasedFields] at h
    | cons y ys =>
      obtain ⟨l, y⟩ := y
      simp only [eqErasedFields, Bool.and_eq_true, beq_iff_eq] at h
      simp [relF, h.1.1, relV_of_eqErased x y h.1.2, relF_of_eqErased xs ys h.2]
end

theorem eqErasedAll_eq : ∀ (xs ys : List Val), eqErasedAll xs ys = eqErasedList xs ys
  | [], [] => by simp [eqErasedAll, eqErasedList]
  | [], _ :: _ => by simp [eqErasedAll, eqErasedList]
  | _ :: _, [] => by simp [eqErasedAll, eqErasedList]
  | x :: xs, y :: ys => by simp [eqErasedAll, eqErasedList, eqErasedAll_eq xs ys]

mutual
theorem hasMarkDeep_eq : ∀ a : Val, hasMarkDeep a = (flagsDeep a).m
  | .unk _ _ | .null _ _ | .str _ _ | .num _ _ | .bool _ _ => by simp [hasMarkDeep, flagsDeep]
  | .list _ _ xs => by simp [hasMarkDeep, flagsDeep, hasMarkDeepList_eq xs]
  | .tuple _ xs => by simp [hasMarkDeep, flagsDeep, hasMarkDeepList_eq xs]
  | .map _ _ xs => by simp [hasMarkDeep, flagsDeep, hasMarkDeepFields_eq xs]
  | .object _ xs => by simp [hasMarkDeep, flagsDeep, hasMarkDeepFields_eq xs]
theorem hasMarkDeepList_eq : ∀ xs : List Val, hasMarkDeepList xs = (flagsDeepList xs).m
  | [] => by simp [hasMarkDeepList, flagsDeepList]
  | x :: xs => by simp [hasMarkDeepList, flagsDeepList, hasMarkDeep_eq x, hasMarkDeepList_eq xs]
theorem hasMarkDeepFields_eq : ∀ xs : List (String × Val), hasMarkDeepFields xs = (flagsDeepFields xs).m
  | [] => by simp [hasMarkDeepFields, flagsDeepFields]
  | (k, x) :: xs => by simp [hasMarkDeepFields, flagsDeepFields, hasMarkDeep_eq x, hasMarkDeepFields_eq xs]
end

theorem flagsDeep_top (a : Val) (h : a.fl.m = true) : (flagsDeep a).m = true := by
  rw [← hasMarkDeep_eq]; exact hasMarkDeep_of_top h

end HclModel.Proofs
