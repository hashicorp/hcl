import Proofs.MarksFor
/-!
C06: the object constructor in two runs.
-/
namespace HclModel.Proofs
open Val

/-- the states of the object-constructor loop in the two runs: same `known`, and marked in both or related entries -/
def IInv (r r' : ForSt × Bool) : Prop :=
  r.2 = r'.2 ∧ ((r.1.marks.m = true ∧ r'.1.marks.m = true) ∨ relKvs r.1.kvs r'.1.kvs)

theorem itemStep_inv {ko ko' vo vo' : Out} {r r' : ForSt × Bool} (hi : IInv r r')
    (hk : relV ko.1 ko'.1 = true) (hs : shapeEq ko.1 ko'.1) (hv : relV vo.1 vo'.1 = true)
    (h1 : (itemStep ko vo r).1.diags = []) (h2 : (itemStep ko' vo' r').1.diags = []) :
    IInv (itemStep ko vo r) (itemStep ko' vo' r') := by
  obtain ⟨st, known⟩ := r
  obtain ⟨st', known'⟩ := r'
  obtain ⟨hkn, hi⟩ := hi
  simp only [] at hkn hi
  subst hkn
  have marks : (st.marks.m = true ∧ st'.marks.m = true) ∨ bm ko.1 ko'.1 →
      ((st.marks.join ko.1.fl).m = true ∧ (st'.marks.join ko'.1.fl).m = true) := by
    intro h; rcases h with h | h <;> simp [h.1, h.2]
  rcases (itemStep_clean h1).2.2.2 with ⟨k1, e1⟩ | ⟨k1, s, c1, e1⟩ <;>
    rcases (itemStep_clean h2).2.2.2 with ⟨k2, e2⟩ | ⟨k2, s', c2, e2⟩ <;> rw [e1, e2]
  · exact ⟨rfl, hi.imp (fun hi => marks (.inl hi)) id⟩
  · rw [hs.1, k2] at k1; cases k1
  · rw [hs.1, k2] at k1; cases k1
  · refine ⟨rfl, ?_⟩
    by_cases hb : (st.marks.m = true ∧ st'.marks.m = true) ∨ bm ko.1 ko'.1
    · exact .inl (marks hb)
    · -- neither the states nor the keys are marked in both runs: the keys are the same string
      have hkv := hi.resolve_left fun hi => hb (.inl hi)
      have rc := relC_of_not_bm hk fun hb' => hb (.inr hb')
      have r := tryConvert_rel (relV_of_relC (a := ko.1.unmark.1) (b := ko'.1.unmark.1) (by simpa using rc)) c1 c2
      simp [relV] at r
      subst r
      refine .inr ?_
      simp only []
      rw [← lookupKey_relKvs s hkv]
      split
      · exact hkv
      · exact groupInsert_rel s _ _ hv hkv

theorem objectOut_rel {r r' : ForSt × Bool} (hi : IInv r r') : relV (objectOut r).1 (objectOut r').1 = true := by
  obtain ⟨st, known⟩ := r
  obtain ⟨st', known'⟩ := r'
  obtain ⟨hk, hi⟩ := hi
  simp only [] at hk hi
  subst hk
  unfold objectOut
  simp only []
  cases known
  · simp [relV_refl]
  · simp only [Bool.not_true, Bool.false_eq_true, if_false, relV]
    rcases hi with hi | hi
    · simp [hi.1, hi.2]
    · simp only [relKvs_heads hi, Bool.or_true]

theorem IInv_init : IInv (({} : ForSt), true) (({} : ForSt), true) := ⟨rfl, Or.inr .nil⟩
end HclModel.Proofs
