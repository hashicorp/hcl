import HclModel.Json.Grammar
/-!
Parser lemmas for C13: the successful runs of `parseValue`, `parseElems` and `parseMembers` as one inductive relation
without fuel (`Run`).  A run with any fuel is one (`parse_run`), and one is the run with every fuel that covers the
tokens it consumes (`run_fuel`), so soundness and completeness of the parser (`Proofs/Json.lean`) are argued on `Run`.
-/
namespace HclModel.Json.Proofs
open HclModel.Json

/-- what a run returns: a value, the elements of an array or the members of an object -/
inductive Res
  | v (n : Node)
  | e (ns : List Node)
  | m (ms : List (List Byte × Node))

def Res.parsed (f : Nat) (toks ts : List Token) : Res → Prop
  | .v n => parseValue f toks = some (n, ts)
  | .e ns => parseElems f toks = some (ns, ts)
  | .m ms => parseMembers f toks = some (ms, ts)

/-- the ways the three parser functions succeed -/
inductive Run : List Token → Res → List Token → Prop
  | emptyObj (t c : Token) (rest : List Token) : t.ty = .braceO → c.ty = .braceC → Run (t :: c :: rest) (.v (.obj [])) rest
  | obj (t c : Token) (rest ts : List Token) (ms) : t.ty = .braceO → c.ty ≠ .braceC →
      Run (c :: rest) (.m ms) ts → Run (t :: c :: rest) (.v (.obj ms)) ts
  | emptyArr (t c : Token) (rest : List Token) : t.ty = .brackO → c.ty = .brackC → Run (t :: c :: rest) (.v (.arr [])) rest
  | arr (t c : Token) (rest ts : List Token) (ns) : t.ty = .brackO → c.ty ≠ .brackC →
      Run (c :: rest) (.e ns) ts → Run (t :: c :: rest) (.v (.arr ns)) ts
  | num (t : Token) (rest : List Token) (m e : Int) : t.ty = .number → parseNumberBytes t.bytes = some (m, e) →
      Run (t :: rest) (.v (.num m e)) rest
  | str (t : Token) (rest : List Token) (d : List Byte) : t.ty = .string → parseStringBytes t.bytes = some d →
      Run (t :: rest) (.v (.str d)) rest
  | ktrue (t : Token) (rest : List Token) : t.ty = .keyword → t.bytes = kwTrue → Run (t :: rest) (.v (.bool true)) rest
  | kfalse (t : Token) (rest : List Token) : t.ty = .keyword → t.bytes = kwFalse → Run (t :: rest) (.v (.bool false)) rest
  | knull (t : Token) (rest : List Token) : t.ty = .keyword → t.bytes = kwNull → Run (t :: rest) (.v .null) rest
  | elem (toks : List Token) (v : Node) (sep : Token) (rest : List Token) :
      Run toks (.v v) (sep :: rest) → sep.ty = .brackC → Run toks (.e [v]) rest
  | elems (toks : List Token) (v : Node) (sep : Token) (rest ts : List Token) (ns : List Node) :
      Run toks (.v v) (sep :: rest) → sep.ty = .comma → Run rest (.e ns) ts → Run toks (.e (v :: ns)) ts
  | member (k colon : Token) (toks : List Token) (name : List Byte) (v : Node) (sep : Token) (rest : List Token) :
      k.ty = .string → colon.ty = .colon → parseStringBytes k.bytes = some name →
      Run toks (.v v) (sep :: rest) → sep.ty = .braceC → Run (k :: colon :: toks) (.m [(name, v)]) rest
  | members (k colon : Token) (toks : List Token) (name : List Byte) (v : Node) (sep : Token) (rest ts : List Token)
      (ms : List (List Byte × Node)) :
      k.ty = .string → colon.ty = .colon → parseStringBytes k.bytes = some name →
      Run toks (.v v) (sep :: rest) → sep.ty = .comma → Run rest (.m ms) ts →
      Run (k :: colon :: toks) (.m ((name, v) :: ms)) ts

theorem parseValue_zero (toks : List Token) : parseValue 0 toks = none := by unfold parseValue; rfl
theorem parseElems_zero (toks : List Token) : parseElems 0 toks = none := by unfold parseElems; rfl
theorem parseMembers_zero (toks : List Token) : parseMembers 0 toks = none := by unfold parseMembers; rfl

theorem parse_run : ∀ f toks r ts, Res.parsed f toks ts r → Run toks r ts := by
  intro f
  induction f with
  | zero =>
    intro toks r ts h
    cases r
    · rw [Res.parsed, parseValue_zero] at h; cases h
    · rw [Res.parsed, parseElems_zero] at h; cases h
    · rw [Res.parsed, parseMembers_zero] at h; cases h
  | succ f ih =>
    intro toks r ts
    cases r with
    | v n =>
      show parseValue _ _ = _ → _
      generalize hf : f + 1 = fuel
      fun_cases parseValue fuel toks
      case case3 f t h1 c rest h2 => intro h; cases h; exact .emptyObj _ _ _ h1 h2
      case case4 f t h1 c rest h2 =>
        intro h; obtain ⟨p, hp, hn⟩ := Option.map_eq_some_iff.1 h; cases hn; cases hf; exact .obj _ _ _ _ _ h1 h2 (ih _ (.m _) _ hp)
      case case6 f t h1 c rest h2 => intro h; cases h; exact .emptyArr _ _ _ h1 h2
      case case7 f t h1 c rest h2 =>
        intro h; obtain ⟨p, hp, hn⟩ := Option.map_eq_some_iff.1 h; cases hn; cases hf; exact .arr _ _ _ _ _ h1 h2 (ih _ (.e _) _ hp)
      case case9 f t rest h1 => intro h; obtain ⟨p, hp, hn⟩ := Option.map_eq_some_iff.1 h; cases hn; exact .num _ _ _ _ h1 hp
      case case10 f t rest h1 => intro h; obtain ⟨p, hp, hn⟩ := Option.map_eq_some_iff.1 h; cases hn; exact .str _ _ _ h1 hp
      case case11 f t rest h1 h2 => intro h; cases h; exact .ktrue _ _ h1 h2
      case case12 f t rest h1 _ h2 => intro h; cases h; exact .kfalse _ _ h1 h2
      case case13 f t rest h1 _ _ h2 => intro h; cases h; exact .knull _ _ h1 h2
      all_goals exact fun h => nomatch h
    | e ns =>
      show parseElems _ _ = _ → _
      generalize hf : f + 1 = fuel
      fun_cases parseElems fuel toks
      case case3 f v c rest h1 hv => intro h; cases h; cases hf; exact .elem _ _ _ _ (ih _ (.v _) _ hv) h1
      case case4 f v c rest _ h1 hv =>
        intro h; obtain ⟨p, hp, hn⟩ := Option.map_eq_some_iff.1 h; cases hn; cases hf
        exact .elems _ _ _ _ _ _ (ih _ (.v _) _ hv) h1 (ih _ (.e _) _ hp)
      all_goals exact fun h => nomatch h
    | m ms =>
      show parseMembers _ _ = _ → _
      generalize hf : f + 1 = fuel
      fun_cases parseMembers fuel toks
      case case4 f k colon toks hkc name hname v c rest h1 hv =>
        intro h; cases h; cases hf; exact .member _ _ _ _ _ _ _ hkc.1 hkc.2 hname (ih _ (.v _) _ hv) h1
      case case5 f k colon toks hkc name hname v c rest _ h1 hv =>
        intro h; obtain ⟨p, hp, hn⟩ := Option.map_eq_some_iff.1 h; cases hn; cases hf
        exact .members _ _ _ _ _ _ _ _ _ hkc.1 hkc.2 hname (ih _ (.v _) _ hv) h1 (ih _ (.m _) _ hp)
      all_goals exact fun h => nomatch h

/-- a run consumes at least one token, so fuel that covers it is not zero -/
theorem fuel_succ {a b f : Nat} (hlt : a < b) (hf : b ≤ a + f) : ∃ k, f = k + 1 := ⟨f - 1, by omega⟩

/-- for a run of one step, which any fuel but zero performs -/
theorem fuel_any {toks ts : List Token} {r : Res} (hl : ts.length < toks.length)
    (h : ∀ f, r.parsed (f + 1) toks ts) :
    ts.length < toks.length ∧ ∀ f, toks.length ≤ ts.length + f → r.parsed f toks ts :=
  ⟨hl, fun f hf => by obtain ⟨f, rfl⟩ := fuel_succ hl hf; exact h f⟩

/-- Each parser function spends one unit of fuel and hands the rest to its calls, one level further in, which run on
    fewer tokens: fuel that covers the tokens of a run is a successor (`fuel_succ`), and what is left covers the
    inner runs, whose induction hypotheses then rewrite the unfolded function. -/
theorem run_fuel {toks : List Token} {r : Res} {ts : List Token} (h : Run toks r ts) :
    ts.length < toks.length ∧ ∀ f, toks.length ≤ ts.length + f → r.parsed f toks ts := by
  induction h with
  | emptyObj t c rest h1 h2 =>
    exact fuel_any (by simp only [List.length_cons]; omega) fun f => by simp [Res.parsed, parseValue, h1, h2]
  | obj t c rest ts ms h1 h2 _ ih =>
    obtain ⟨hl, ih⟩ := ih
    simp only [List.length_cons, Res.parsed] at hl ih ⊢
    refine ⟨by omega, fun f hf => ?_⟩
    obtain ⟨f, rfl⟩ := fuel_succ (b := rest.length + 1 + 1) (by omega) hf
    simp [parseValue, h1, h2, ih f (by omega)]
  | emptyArr t c rest h1 h2 =>
    exact fuel_any (by simp only [List.length_cons]; omega) fun f => by simp [Res.parsed, parseValue, h1, h2]
  | arr t c rest ts ns h1 h2 _ ih =>
    obtain ⟨hl, ih⟩ := ih
    simp only [List.length_cons, Res.parsed] at hl ih ⊢
    refine ⟨by omega, fun f hf => ?_⟩
    obtain ⟨f, rfl⟩ := fuel_succ (b := rest.length + 1 + 1) (by omega) hf
    simp [parseValue, h1, h2, ih f (by omega)]
  | num t rest m e h1 h2 => exact fuel_any (Nat.lt_succ_self _) fun f => by simp [Res.parsed, parseValue, h1, h2]
  | str t rest d h1 h2 => exact fuel_any (Nat.lt_succ_self _) fun f => by simp [Res.parsed, parseValue, h1, h2]
  | ktrue t rest h1 h2 => exact fuel_any (Nat.lt_succ_self _) fun f => by simp [Res.parsed, parseValue, h1, h2]
  | kfalse t rest h1 h2 =>
    exact fuel_any (Nat.lt_succ_self _) fun f => by simp [Res.parsed, parseValue, h1, h2, kwTrue, kwFalse]
  | knull t rest h1 h2 =>
    exact fuel_any (Nat.lt_succ_self _) fun f => by simp [Res.parsed, parseValue, h1, h2, kwTrue, kwFalse, kwNull]
  | elem toks v sep rest _ h2 ih =>
    obtain ⟨hl, ih⟩ := ih
    simp only [List.length_cons, Res.parsed] at hl ih ⊢
    refine ⟨by omega, fun f hf => ?_⟩
    obtain ⟨f, rfl⟩ := fuel_succ (a := rest.length) (b := toks.length) (by omega) hf
    simp [parseElems, ih f (by omega), h2]
  | elems toks v sep rest ts ns _ h2 _ ih ih' =>
    obtain ⟨hl, ih⟩ := ih
    obtain ⟨hl', ih'⟩ := ih'
    simp only [List.length_cons, Res.parsed] at hl ih ih' ⊢
    refine ⟨by omega, fun f hf => ?_⟩
    obtain ⟨f, rfl⟩ := fuel_succ (a := ts.length) (b := toks.length) (by omega) hf
    simp [parseElems, ih f (by omega), h2, ih' f (by omega)]
  | member k colon toks name v sep rest h1 h2 h3 _ h5 ih =>
    obtain ⟨hl, ih⟩ := ih
    simp only [List.length_cons, Res.parsed] at hl ih ⊢
    refine ⟨by omega, fun f hf => ?_⟩
    obtain ⟨f, rfl⟩ := fuel_succ (a := rest.length) (b := toks.length + 1 + 1) (by omega) hf
    simp [parseMembers, h1, h2, h3, ih f (by omega), h5]
  | members k colon toks name v sep rest ts ms h1 h2 h3 _ h5 _ ih ih' =>
    obtain ⟨hl, ih⟩ := ih
    obtain ⟨hl', ih'⟩ := ih'
    simp only [List.length_cons, Res.parsed] at hl ih ih' ⊢
    refine ⟨by omega, fun f hf => ?_⟩
    obtain ⟨f, rfl⟩ := fuel_succ (a := ts.length) (b := toks.length + 1 + 1) (by omega) hf
    simp [parseMembers, h1, h2, h3, ih f (by omega), h5, ih' f (by omega)]

end HclModel.Json.Proofs
