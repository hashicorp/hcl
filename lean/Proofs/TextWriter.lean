import Proofs.TaintAccess
import HclModel.Diag.TextWriter
/-!
C19: the variable summary of the text diagnostic writer (`HclModel/Diag/TextWriter.lean`).
Traversal steps preserve "nothing tainted is exposed" (`getAttr_tw`, `index_tw`: the result of a step into a
marked collection is marked at the top, `WithSameMarks`), so the value a traversal resolves to is either marked
at the top (and skipped) or every taint in it lies at or below a deeper mark, where `valueFrags` never looks.
-/
namespace HclModel.Proofs
open Val HclModel.TextW

theorem lookupRoot_tw {ctxs : List Env} (hρ : ∀ ρ ∈ ctxs, twEnv ρ) {x : String} {v : Val}
    (h : lookupRoot ctxs x = some v) : tw false v = true := by
  induction ctxs with
  | nil => cases h
  | cons ρ rest ih =>
    simp only [lookupRoot] at h
    cases hl : Env.lookup ρ x with
    | some w =>
      rw [hl] at h
      simp only [Option.some.injEq] at h
      subst h
      exact hρ ρ (List.mem_cons_self ..) (x, w) (mem_of_lookupKey hl)
    | none =>
      rw [hl] at h
      exact ih (fun σ hσ => hρ σ (List.mem_cons_of_mem _ hσ)) h

theorem stepOut_tw (v : Val) (s : Step) (hv : tw false v = true)
    (hk : ∀ k, s = .index k → tw false k = true) : tw false (stepOut v s).1 = true := by
  cases s with
  | attr n => exact getAttr_tw v n hv
  | index k => exact index_tw false v k hv (hk k rfl)

theorem traverseRel_tw : ∀ (steps : List Step) (v x : Val), tw false v = true →
    (∀ k, Step.index k ∈ steps → tw false k = true) → traverseRel v steps = some x → tw false x = true
  | [], v, x, hv, _, h => by
    simp only [traverseRel, Option.some.injEq] at h
    exact h ▸ hv
  | s :: rest, v, x, hv, hk, h => by
    have hs := stepOut_tw v s hv (fun k hk' => hk k (hk' ▸ List.mem_cons_self ..))
    simp only [traverseRel] at h
    rcases ho : stepOut v s with ⟨y, ds⟩
    rw [ho] at h hs
    cases ds with
    | nil => exact traverseRel_tw rest y x hs (fun k hk' => hk k (List.mem_cons_of_mem _ hk')) h
    | cons d ds => cases h

theorem mem_keys {t : Trav} {k : Val} : k ∈ t.keys ↔ Step.index k ∈ t.steps := by
  unfold Trav.keys
  rw [List.mem_filterMap]
  constructor
  · rintro ⟨s, hs, h⟩
    cases s with
    | attr n => cases h
    | index k' => cases h; exact hs
  · intro h
    exact ⟨_, h, rfl⟩

theorem traverseAbs_tw {ctxs : List Env} (hρ : ∀ ρ ∈ ctxs, twEnv ρ) {t : Trav}
    (hk : ∀ k ∈ t.keys, tw false k = true) {v : Val} (h : traverseAbs ctxs t = some v) : tw false v = true := by
  unfold traverseAbs at h
  cases hl : lookupRoot ctxs t.root with
  | none => rw [hl] at h; cases h
  | some w =>
    rw [hl] at h
    exact traverseRel_tw t.steps w v (lookupRoot_tw hρ hl) (fun k hk' => hk k (mem_keys.mpr hk')) h

theorem eq_of_mem_keyFrags (k f : Val) (h : f ∈ keyFrags k) : f = k := by
  cases k <;> simp [keyFrags] at h <;> exact h

theorem travFrags_untainted (t : Trav) (hk : ∀ k ∈ t.keys, untainted k = true) :
    ∀ f ∈ travFrags t, untainted f = true := by
  intro f hf
  unfold travFrags at hf
  rw [List.mem_flatMap] at hf
  obtain ⟨s, hs, hfs⟩ := hf
  cases s with
  | attr n => simp [stepFrags] at hfs
  | index k =>
    simp only [stepFrags] at hfs
    rw [eq_of_mem_keyFrags k f hfs]
    exact hk k (mem_keys.mpr hs)

/-- The top-level mark test is enough: a value that exposes no taint and is not marked at the top shows
    only untainted content: primitives carry their flags at the top; the name of a single attribute is content
    of the object node; nothing else is shown. -/
theorem valueFrags_untainted (v : Val) (hv : tw false v = true) (hm : v.isMarked = false) :
    ∀ f ∈ valueFrags v, untainted f = true := by
  intro f hf
  have hg : v.fl.g = false := by
    cases hgg : v.fl.g with
    | false => rfl
    | true =>
      rcases tw_top hv hgg with h | h
      · cases h
      · simp [Val.isMarked, h] at hm
  cases v with
  | str fl s | num fl q | bool fl b =>
    simp only [valueFrags, List.mem_singleton] at hf
    subst hf
    simpa [untainted, flagsDeep, Val.fl] using hg
  | object fl kvs =>
    match kvs, hf with
    | [(k, x)], hf =>
      simp only [valueFrags, List.mem_singleton] at hf
      subst hf
      simpa [untainted, flagsDeep, Val.fl] using hg
    | [], hf => simp [valueFrags] at hf
    | _ :: _ :: _, hf => simp [valueFrags] at hf
  | unk | null | list | map | tuple => simp [valueFrags] at hf

theorem shownOf_untainted (t : Trav) (v : Val) (hv : tw false v = true)
    (hk : ∀ k ∈ t.keys, untainted k = true) : ∀ f ∈ (shownOf t v).frags, untainted f = true := by
  intro f hf
  unfold shownOf at hf
  by_cases h1 : (!v.isKnown) = true
  · simp [h1, Shown.frags] at hf
  · rw [if_neg h1] at hf
    by_cases h2 : v.isNull = true
    · rw [if_pos h2] at hf
      exact travFrags_untainted t hk f hf
    · rw [if_neg h2] at hf
      by_cases h3 : v.isMarked = true
      · simp [h3, Shown.frags] at hf
      · rw [if_neg h3] at hf
        simp only [Shown.frags, List.mem_append] at hf
        rcases hf with hf | hf
        · exact travFrags_untainted t hk f hf
        · exact valueFrags_untainted v hv (by simpa using h3) f hf

theorem textwriter_clean (ctxs : List Env) (t : Trav) (hρ : ∀ ρ ∈ ctxs, twEnv ρ)
    (hk : ∀ k ∈ t.keys, untainted k = true) : ∀ f ∈ (stmtOf ctxs t).frags, untainted f = true := by
  intro f hf
  unfold stmtOf at hf
  cases h : traverseAbs ctxs t with
  | none => rw [h] at hf; simp [Shown.frags] at hf
  | some v =>
    rw [h] at hf
    have hv := traverseAbs_tw hρ (fun k hk' => tw_of_untainted k false (by simpa [untainted] using hk k hk')) h
    exact shownOf_untainted t v hv hk f hf

theorem shownOf_marked (t : Trav) (v : Val) (hm : v.isMarked = true) :
    shownOf t v = .skip ∨ (v.isNull = true ∧ shownOf t v = .null (travFrags t)) := by
  unfold shownOf
  by_cases h1 : (!v.isKnown) = true
  · simp [h1]
  · by_cases h2 : v.isNull = true
    · simp [h1, h2]
    · simp [h1, h2, hm]

theorem stepOut_marked (v : Val) (s : Step) (hm : v.fl.m = true) (h : (stepOut v s).2 = []) :
    (stepOut v s).1.fl.m = true := by
  cases s with
  | attr n => exact getAttr_marked v n hm h
  | index k => exact index_coll_marked false v k hm h

theorem traverseRel_marked : ∀ (steps : List Step) (v x : Val), v.fl.m = true →
    traverseRel v steps = some x → x.fl.m = true
  | [], v, x, hm, h => by
    simp only [traverseRel, Option.some.injEq] at h
    exact h ▸ hm
  | s :: rest, v, x, hm, h => by
    simp only [traverseRel] at h
    rcases ho : stepOut v s with ⟨y, ds⟩
    rw [ho] at h
    cases ds with
    | nil =>
      have := stepOut_marked v s hm (by rw [ho])
      rw [ho] at this
      exact traverseRel_marked rest y x this h
    | cons d ds => cases h

end HclModel.Proofs
