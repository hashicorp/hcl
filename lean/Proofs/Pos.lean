import HclModel.Lex.Pos
/-!
Proofs about the position model: the incremental bookkeeping of `emitAll` agrees with the recount
`refRanges`, tokens are ordered and non-overlapping, and the byte offsets tile the input.
-/
namespace HclModel.Pos.Proofs

theorem walk_append (p : P) (a b : List Cl) : walk p (a ++ b) = walk (walk p a) b := by
  simp [walk, List.foldl_append]

theorem walk_nil (p : P) : walk p [] = p := rfl

theorem walk_cons (p : P) (c : Cl) (cs : List Cl) : walk p (c :: cs) = walk (stepCl p c) cs := rfl

theorem walk_gapCls (n : Nat) (p : P) :
    walk p (gapCls n) = ⟨p.byte + n, p.line, p.col + n⟩ := by
  induction n generalizing p with
  | zero => simp [gapCls, walk]
  | succ n ih =>
    have h : gapCls (n + 1) = ⟨1, false⟩ :: gapCls n := by
      simp [gapCls, List.replicate_succ]
    rw [h, walk_cons, ih]
    simp [stepCl]
    omega

theorem foldl_len (cls : List Cl) (a : Nat) :
    cls.foldl (fun a c => a + c.len) a = a + cls.foldl (fun a c => a + c.len) 0 := by
  induction cls generalizing a with
  | nil => simp
  | cons c cs ih =>
    simp only [List.foldl_cons]
    rw [ih (a + c.len), ih (0 + c.len)]
    omega

theorem clBytes_nil : clBytes [] = 0 := rfl

theorem clBytes_cons (c : Cl) (cs : List Cl) : clBytes (c :: cs) = c.len + clBytes cs := by
  simp only [clBytes, List.foldl_cons]
  rw [foldl_len]
  omega

theorem clBytes_append (a b : List Cl) : clBytes (a ++ b) = clBytes a + clBytes b := by
  induction a with
  | nil => simp [clBytes_nil]
  | cons c cs ih => simp only [List.cons_append, clBytes_cons, ih]; omega

theorem stepCl_byte (p : P) (c : Cl) : (stepCl p c).byte = p.byte + c.len := by
  unfold stepCl; split <;> rfl

theorem walk_byte (cls : List Cl) (p : P) : (walk p cls).byte = p.byte + clBytes cls := by
  induction cls generalizing p with
  | nil => simp [walk_nil, clBytes_nil]
  | cons c cs ih =>
    rw [walk_cons, ih, stepCl_byte, clBytes_cons]
    omega

theorem clBytes_gapCls (n : Nat) : clBytes (gapCls n) = n := by
  have := walk_byte (gapCls n) ⟨0, 0, 0⟩
  rw [walk_gapCls] at this
  simpa using this.symm

theorem emitAll_eq_ref_gen (start : P) (segs : List Seg) :
    ∀ (pos : P) (g : Nat) (before : List Cl),
      walk start before = ⟨pos.byte + g, pos.line, pos.col + g⟩ →
      emitAll pos g segs = refRanges start before segs := by
  induction segs with
  | nil => intro pos g before _; simp [emitAll, refRanges]
  | cons s rest ih =>
    intro pos g before h
    cases s with
    | gap n =>
      simp only [emitAll, refRanges]
      apply ih
      rw [walk_append, h, walk_gapCls]
      simp [Nat.add_assoc]
    | tok ty cls =>
      simp only [emitAll, refRanges, emit, posAt]
      rw [walk_append, h]
      congr 1
      apply ih
      rw [walk_append, h]
      simp

/-- ranges in source order without overlap, each well-formed, none starting before byte `lo` -/
def OrderedFrom (lo : Nat) (rs : List TokRange) : Prop :=
  rs.Pairwise (fun a b => a.stop.byte ≤ b.start.byte) ∧ (∀ r ∈ rs, r.start.byte ≤ r.stop.byte) ∧
    ∀ r ∈ rs, lo ≤ r.start.byte

theorem OrderedFrom.nil (lo : Nat) : OrderedFrom lo [] :=
  ⟨.nil, nofun, nofun⟩

theorem OrderedFrom.mono {lo lo' : Nat} {rs : List TokRange} (hle : lo ≤ lo') (h : OrderedFrom lo' rs) :
    OrderedFrom lo rs :=
  ⟨h.1, h.2.1, fun r hr => Nat.le_trans hle (h.2.2 r hr)⟩

theorem OrderedFrom.cons {lo lo' : Nat} {r : TokRange} {rs : List TokRange} (h1 : lo ≤ r.start.byte)
    (h2 : r.start.byte ≤ r.stop.byte) (h3 : r.stop.byte ≤ lo') (h : OrderedFrom lo' rs) :
    OrderedFrom lo (r :: rs) :=
  ⟨List.pairwise_cons.mpr ⟨fun x hx => Nat.le_trans h3 (h.2.2 x hx), h.1⟩,
   List.forall_mem_cons.mpr ⟨h2, h.2.1⟩,
   List.forall_mem_cons.mpr ⟨h1, (h.mono (Nat.le_trans h1 (Nat.le_trans h2 h3))).2.2⟩⟩

theorem emitAll_ordered_gen (segs : List Seg) :
    ∀ (pos : P) (g : Nat), OrderedFrom (pos.byte + g) (emitAll pos g segs) := by
  induction segs with
  | nil => intro pos g; exact .nil _
  | cons s rest ih =>
    intro pos g
    cases s with
    | gap n => exact (ih pos (g + n)).mono (by omega)
    | tok ty cls =>
      exact .cons (Nat.le_refl _) (by simp only [walk_byte]; omega) (Nat.le_refl _) (ih _ 0)

theorem emitAll_last_gen (ty : Nat) (cls : List Cl) (segs : List Seg) :
    ∀ (pos : P) (g : Nat),
      ((emitAll pos g (segs ++ [.tok ty cls])).getLast?.map (·.stop.byte)) =
        some (pos.byte + g + clBytes (flatten (segs ++ [.tok ty cls]))) := by
  induction segs with
  | nil =>
    intro pos g
    simp [emitAll, emit, flatten, walk_byte]
  | cons s rest ih =>
    intro pos g
    cases s with
    | gap n =>
      simp only [List.cons_append, emitAll, flatten]
      rw [ih, clBytes_append, clBytes_gapCls]
      congr 1
      omega
    | tok ty' cls' =>
      simp only [List.cons_append, emitAll, emit, flatten]
      have hne : emitAll (walk ⟨pos.byte + g, pos.line, pos.col + g⟩ cls') 0
          (rest ++ [.tok ty cls]) ≠ [] := by
        intro h
        have := ih (walk ⟨pos.byte + g, pos.line, pos.col + g⟩ cls') 0
        rw [h] at this
        simp at this
      rw [List.getLast?_cons_of_ne_nil hne, ih, clBytes_append, walk_byte]
      congr 1
      simp only
      omega

end HclModel.Pos.Proofs
