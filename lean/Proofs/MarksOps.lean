import Proofs.MarksVal
/-!
C06 for `convert` and `tryConvert`: related values are converted to related values when both conversions
succeed.
-/
namespace HclModel.Proofs
open Val

theorem rel_setFl_self (x : Val) (g : Fl) : relV x (x.setFl g) = true := by
  apply relV_of_relC
  have := relC_setFl x x x.fl g
  simpa [relC_refl] using this

theorem relC_leaf {a b : Val} (hl : isLeaf a = true) (h : relC a b = true) : b = a.setFl b.fl := by
  cases relC_view h <;> first | rfl | cases hl

/-- conversion maps related values to related values: the statement about one value, as the induction
    over values needs it -/
def ConvRel (a : Val) : Prop :=
  ∀ b t x y, relV a b = true → convert a t = .ok x → convert b t = .ok y → relV x y = true

theorem convertPair_rel_of : ∀ {xs ys : List Val} {ts : List Ty} {xs' ys' : List Val}, (∀ x ∈ xs, ConvRel x) →
    relL xs ys = true → convertPair xs ts = .ok xs' → convertPair ys ts = .ok ys' → relL xs' ys' = true
  | [], [], _, _, _, _, _, hx, hy => by rw [convertPair_nil_left] at hx hy; cases hx; cases hy; rfl
  | [], _ :: _, _, _, _, _, h, _, _ => by simp [relL] at h
  | _ :: _, [], _, _, _, _, h, _, _ => by simp [relL] at h
  | _ :: _, _ :: _, [], _, _, _, _, hx, hy => by rw [convertPair_nil_right] at hx hy; cases hx; cases hy; rfl
  | x :: xs, y :: ys, t :: ts, _, _, ih, h, hx, hy => by
    simp only [relL, Bool.and_eq_true] at h
    obtain ⟨x', xs', hx1, hx2, rfl⟩ := convertPair_cons_ok.mp hx
    obtain ⟨y', ys', hy1, hy2, rfl⟩ := convertPair_cons_ok.mp hy
    simp only [relL, Bool.and_eq_true]
    exact ⟨ih x (by simp) y t x' y' h.1 hx1 hy1,
      convertPair_rel_of (fun z hz => ih z (by simp [hz])) h.2 hx2 hy2⟩

theorem convertFieldsTo_rel_of : ∀ {xs ys : List (String × Val)} {ts : List (String × Ty)}
    {xs' ys' : List (String × Val)}, (∀ p ∈ xs, ConvRel p.2) →
    relF xs ys = true → convertFieldsTo xs ts = .ok xs' → convertFieldsTo ys ts = .ok ys' → relF xs' ys' = true
  | [], [], _, _, _, _, _, hx, hy => by rw [convertFieldsTo_nil_left] at hx hy; cases hx; cases hy; rfl
  | [], _ :: _, _, _, _, _, h, _, _ => by simp [relF] at h
  | _ :: _, [], _, _, _, _, h, _, _ => by simp [relF] at h
  | _ :: _, _ :: _, [], _, _, _, _, hx, hy => by
    rw [convertFieldsTo_nil_right] at hx hy; cases hx; cases hy; rfl
  | (k, x) :: xs, (l, y) :: ys, (_, t) :: ts, _, _, ih, h, hx, hy => by
    simp only [relF, Bool.and_eq_true] at h
    obtain ⟨x', xs', hx1, hx2, rfl⟩ := convertFieldsTo_cons_ok.mp hx
    obtain ⟨y', ys', hy1, hy2, rfl⟩ := convertFieldsTo_cons_ok.mp hy
    simp only [relF, Bool.and_eq_true]
    exact ⟨⟨h.1.1, ih (k, x) (by simp) y t x' y' h.1.2 hx1 hy1⟩,
      convertFieldsTo_rel_of (fun z hz => ih z (by simp [hz])) h.2 hx2 hy2⟩

theorem convertList_rel_of {t : Ty} {xs ys xs' ys' : List Val} (ih : ∀ x ∈ xs, ConvRel x)
    (h : relL xs ys = true) (hx : convertList xs t = .ok xs') (hy : convertList ys t = .ok ys') :
    relL xs' ys' = true :=
  convertPair_rel_of ih h (convertPair_of_convertList hx) (relL_length h ▸ convertPair_of_convertList hy)

theorem convertFields_rel_of {t : Ty} : ∀ {xs ys xs' ys' : List (String × Val)}, (∀ p ∈ xs, ConvRel p.2) →
    relF xs ys = true → convertFields xs t = .ok xs' → convertFields ys t = .ok ys' → relF xs' ys' = true
  | [], [], _, _, _, _, hx, hy => by rw [convertFields_nil] at hx hy; cases hx; cases hy; rfl
  | [], _ :: _, _, _, _, h, _, _ => by simp [relF] at h
  | _ :: _, [], _, _, _, h, _, _ => by simp [relF] at h
  | (k, x) :: xs, (l, y) :: ys, _, _, ih, h, hx, hy => by
    simp only [relF, Bool.and_eq_true] at h
    obtain ⟨_, x', xs', hx1, hx2, rfl⟩ := convertFields_cons_ok.mp hx
    obtain ⟨_, y', ys', hy1, hy2, rfl⟩ := convertFields_cons_ok.mp hy
    simp only [relF, Bool.and_eq_true]
    exact ⟨⟨h.1.1, ih (k, x) (by simp) y t x' y' h.1.2 hx1 hy1⟩,
      convertFields_rel_of (fun z hz => ih z (by simp [hz])) h.2 hx2 hy2⟩

/-- Values marked at the top stay so.  Otherwise the two values have the same constructor: leaves differ in
    their flags only, which `convert` passes through; collections are converted child by child, the two
    conversions taking the same branch because the types agree (or, for tuples and objects, because the
    branch depends on the target type only). -/
theorem convert_rel : ∀ a : Val, ConvRel a := by
  have top {a b : Val} {t x y} (h : relV a b = true) (hx : convert a t = .ok x) (hy : convert b t = .ok y)
      (hc : relC a b = true → relV x y = true) : relV x y = true := by
    rcases relV_cases h with ⟨h1, h2⟩ | h
    · exact relV_top (by rw [convert_fl hx]; exact h1) (by rw [convert_fl hy]; exact h2)
    · exact hc h
  refine val_induction ?_ ?_ ?_ ?_ ?_
  · intro a hl b t x y h hx hy
    refine top h hx hy fun hc => ?_
    rw [relC_leaf hl hc, convert_setFl, hx] at hy
    cases hy; exact rel_setFl_self _ _
  · intro f u xs ih b t x y h hx hy
    refine top h hx hy fun hc => ?_
    cases relC_view hc with | list _ g _ hl =>
    rcases convert_list_both hx hy with ⟨rfl, rfl⟩ | ⟨b, xs', ys', rfl, hxs, hys, rfl, rfl⟩
    · exact relV_of_relC hc
    · exact relV_of_relC (by simp [relC, convertList_rel_of ih hl hxs hys])
  · intro f u xs ih b t x y h hx hy
    refine top h hx hy fun hc => ?_
    cases relC_view hc with | map _ g _ hl =>
    rcases convert_map_both hx hy with ⟨rfl, rfl⟩ | ⟨b, xs', ys', rfl, hxs, hys, rfl, rfl⟩
    · exact relV_of_relC hc
    · exact relV_of_relC (by simp [relC, convertFields_rel_of ih hl hxs hys])
  · intro f xs ih b t x y h hx hy
    refine top h hx hy fun hc => ?_
    cases relC_view hc with | tuple _ g hl =>
    rcases convert_tuple_both hx hy with ⟨rfl, rfl⟩ | ⟨b, xs', ys', rfl, hxs, hys, rfl, rfl⟩ |
      ⟨bs, xs', ys', rfl, hxs, hys, rfl, rfl⟩
    · exact relV_of_relC hc
    · exact relV_of_relC (by simp [relC, convertList_rel_of ih hl hxs hys])
    · exact relV_of_relC (by simp [relC, convertPair_rel_of ih hl hxs hys])
  · intro f xs ih b t x y h hx hy
    refine top h hx hy fun hc => ?_
    cases relC_view hc with | object _ g hl =>
    rcases convert_object_both hx hy with ⟨rfl, rfl⟩ | ⟨b, xs', ys', rfl, hxs, hys, rfl, rfl⟩ |
      ⟨bs, xs', ys', rfl, hxs, hys, rfl, rfl⟩
    · exact relV_of_relC hc
    · exact relV_of_relC (by simp [relC, convertFields_rel_of ih hl hxs hys])
    · exact relV_of_relC (by simp [relC, convertFieldsTo_rel_of ih hl hxs hys])

theorem convertFields_rel : ∀ (xs ys : List (String × Val)) (t : Ty) (xs' ys' : List (String × Val)), relF xs ys = true →
    convertFields xs t = .ok xs' → convertFields ys t = .ok ys' → relF xs' ys' = true :=
  fun _ _ _ _ _ => convertFields_rel_of fun p _ => convert_rel p.2
theorem convertFieldsTo_rel : ∀ (xs ys : List (String × Val)) (ts : List (String × Ty)) (xs' ys' : List (String × Val)), relF xs ys = true →
    convertFieldsTo xs ts = .ok xs' → convertFieldsTo ys ts = .ok ys' → relF xs' ys' = true :=
  fun _ _ _ _ _ => convertFieldsTo_rel_of fun p _ => convert_rel p.2

theorem tryConvert_rel {a b : Val} {t : Ty} {x y : Val} (h : relV a b = true)
    (hx : tryConvert a t = .ok x) (hy : tryConvert b t = .ok y) : relV x y = true :=
  convert_rel a b t x y h (tryConvert_ok hx) (tryConvert_ok hy)

theorem tryConvert_relC {a b x y : Val} {t : Ty} (h : relV a b = true) (hb : ¬ bm a b)
    (hx : tryConvert a t = .ok x) (hy : tryConvert b t = .ok y) : relC x y = true :=
  relC_of_not_bm (tryConvert_rel h hx hy) (by rw [bm, tryConvert_fl hx, tryConvert_fl hy]; exact hb)

end HclModel.Proofs
