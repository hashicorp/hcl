import HclModel.Conc.SymbolTable
/-!
C17: isolation of the per-evaluation-context symbol table.  The table is local (`run_restrict`): running the
projection of a trace on a class of keys from the restricted table yields the restriction of the final table
and the reads of that class; with `isolation` this gives `concurrent_eq_sequential` and `no_residue`.
-/
namespace HclModel.Conc.Proofs
open HclModel.Conc

theorem getElem?_set_tail {ps : List (List Op)} {j : Nat} {op : Op} {rest : List Op}
    (hj : ps[j]? = some (op :: rest)) {i : Nat} {p : List Op} (hp : (ps.set j rest)[i]? = some p) :
    ∃ q, ps[i]? = some q ∧ ∀ x ∈ p, x ∈ q := by
  by_cases hji : j = i
  · subst hji
    have hlt : j < ps.length := (List.getElem?_eq_some_iff.1 hj).1
    rw [List.getElem?_set_self hlt] at hp
    cases hp
    exact ⟨_, hj, fun x hx => List.mem_cons_of_mem _ hx⟩
  · rw [List.getElem?_set_ne hji] at hp
    exact ⟨p, hp, fun x hx => hx⟩

theorem ownKeys_set {owner : Key → Nat} {ps : List (List Op)} (hown : OwnKeys owner ps)
    {j : Nat} {op : Op} {rest : List Op} (hj : ps[j]? = some (op :: rest)) :
    OwnKeys owner (ps.set j rest) := by
  intro i p hp op' hop'
  obtain ⟨q, hq, hsub⟩ := getElem?_set_tail hj hp
  exact hown i q hq op' (hsub _ hop')

theorem isolation (owner : Key → Nat) (ps : List (List Op)) (tr : List Op)
    (hown : OwnKeys owner ps) (hint : Interleaving ps tr) (i : Nat) (p : List Op) (hp : ps[i]? = some p) :
    project (fun k => owner k = i) tr = p := by
  induction hint generalizing p with
  | nil ps h =>
    have := h p (List.mem_of_getElem? hp)
    simp [project, this]
  | step ps j op rest tr hj _ ih =>
    have hown' := ownKeys_set hown hj
    have hk : owner op.key = j := hown j _ hj op List.mem_cons_self
    have hlt : j < ps.length := (List.getElem?_eq_some_iff.1 hj).1
    by_cases hij : j = i
    · subst hij
      rw [hj] at hp
      cases hp
      have h1 := ih hown' rest (List.getElem?_set_self hlt)
      simp only [project] at h1 ⊢
      rw [List.filter_cons_of_pos (by simp [hk]), h1]
    · have h1 := ih hown' p (by rw [List.getElem?_set_ne hij, hp])
      simp only [project] at h1 ⊢
      rw [List.filter_cons_of_neg (by simp [hk, hij]), h1]

def restrict (owns : Key → Bool) (t : Table) : Table := t.filter fun p => owns p.1

theorem restrict_erase (owns : Key → Bool) (t : Table) (k : Key) :
    restrict owns (Table.erase t k) = Table.erase (restrict owns t) k := by
  simp only [restrict, Table.erase, List.filter_filter]
  congr 1
  funext p
  exact Bool.and_comm _ _

theorem restrict_erase_of_not (owns : Key → Bool) (t : Table) (k : Key) (h : owns k = false) :
    restrict owns (Table.erase t k) = restrict owns t := by
  simp only [restrict, Table.erase, List.filter_filter]
  apply List.filter_congr
  intro p _
  by_cases hp : p.1 = k
  · simp [hp, h]
  · simp [hp]

theorem lookup_restrict (owns : Key → Bool) (t : Table) (k : Key) (h : owns k = true) :
    Table.lookup (restrict owns t) k = Table.lookup t k := by
  induction t with
  | nil => rfl
  | cons kv t ih =>
    obtain ⟨k', v⟩ := kv
    unfold restrict at ih ⊢
    by_cases hk : k' = k
    · subst hk; simp [Table.lookup, h]
    · cases ho : owns k' <;> simp [ho, Table.lookup, hk, ih]

theorem step_restrict_own (owns : Key → Bool) (t : Table) (op : Op) (h : owns op.key = true) :
    step (restrict owns t) op = (restrict owns (step t op).1, (step t op).2) := by
  cases op with
  | set k v =>
    simp only [Op.key] at h
    simp only [step, ← restrict_erase]
    simp [restrict, h]
  | clear k => simp only [step, ← restrict_erase]
  | get k =>
    simp only [Op.key] at h
    simp only [step, lookup_restrict owns t k h]

theorem step_restrict_other (owns : Key → Bool) (t : Table) (op : Op) (h : owns op.key = false) :
    restrict owns (step t op).1 = restrict owns t := by
  cases op with
  | set k v =>
    simp only [Op.key] at h
    simp only [step]
    have : restrict owns ((k, v) :: Table.erase t k) = restrict owns (Table.erase t k) := by
      simp [restrict, h]
    rw [this, restrict_erase_of_not owns t k h]
  | clear k =>
    simp only [Op.key] at h
    simp only [step, restrict_erase_of_not owns t k h]
  | get k => rfl

theorem step_snd_none_of_not_get (t : Table) (op : Op) :
    (step t op).2 = none ∨ ∃ k, op = .get k := by
  cases op <;> simp [step]

theorem run_restrict (owns : Key → Bool) (t : Table) (tr : List Op) :
    run (restrict owns t) (project owns tr) = (restrict owns (run t tr).1, readsOf owns t tr) := by
  induction tr generalizing t with
  | nil => simp [project, run, readsOf]
  | cons op tr ih =>
    cases h : owns op.key with
    | true =>
      rw [show project owns (op :: tr) = op :: project owns tr by simp [project, h]]
      simp only [run, readsOf, step_restrict_own owns t op h, ih (step t op).1]
      cases (step t op).2 <;> simp [h]
    | false =>
      -- an operation on a foreign key is not run, and leaves both the restricted table and the reads as they are
      rw [show project owns (op :: tr) = project owns tr by simp [project, h],
        ← step_restrict_other owns t op h, ih (step t op).1]
      simp only [run, readsOf]
      cases (step t op).2 <;> simp [h]

theorem run_thread (owner : Key → Nat) (ps : List (List Op)) (tr : List Op)
    (hown : OwnKeys owner ps) (hint : Interleaving ps tr) (i : Nat) (p : List Op) (hp : ps[i]? = some p) :
    run [] p = (restrict (fun k => owner k = i) (run [] tr).1, readsOf (fun k => owner k = i) [] tr) := by
  have h := run_restrict (fun k => owner k = i) [] tr
  rwa [isolation owner ps tr hown hint i p hp] at h

theorem concurrent_eq_sequential (owner : Key → Nat) (ps : List (List Op)) (tr : List Op)
    (hown : OwnKeys owner ps) (hint : Interleaving ps tr) (i : Nat) (p : List Op) (hp : ps[i]? = some p) :
    readsOf (fun k => owner k = i) [] tr = (run [] p).2 := by
  rw [run_thread owner ps tr hown hint i p hp]

theorem mem_run (t : Table) (tr : List Op) (kv : Key × V) (h : kv ∈ (run t tr).1) :
    kv ∈ t ∨ ∃ op ∈ tr, op.key = kv.1 := by
  induction tr generalizing t with
  | nil => exact .inl h
  | cons op tr ih =>
    simp only [run] at h
    rcases ih _ h with h1 | ⟨op', hop', hk⟩
    · cases op with
      | set k v =>
        simp only [step, List.mem_cons] at h1
        rcases h1 with rfl | h1
        · exact .inr ⟨_, List.mem_cons_self, rfl⟩
        · exact .inl (List.mem_filter.mp h1).1
      | clear k => exact .inl (List.mem_filter.mp h1).1
      | get k => exact .inl h1
    · exact .inr ⟨op', List.mem_cons_of_mem _ hop', hk⟩

theorem mem_interleaving {ps : List (List Op)} {tr : List Op} (hint : Interleaving ps tr)
    (op : Op) (h : op ∈ tr) : ∃ (j : Nat) (p : List Op), ps[j]? = some p ∧ op ∈ p := by
  induction hint with
  | nil ps _ => cases h
  | step ps j op' rest tr hj _ ih =>
    rcases List.mem_cons.mp h with rfl | h
    · exact ⟨j, _, hj, List.mem_cons_self⟩
    · obtain ⟨j', p, hp, hop⟩ := ih h
      obtain ⟨q, hq, hsub⟩ := getElem?_set_tail hj hp
      exact ⟨j', q, hq, hsub _ hop⟩

theorem no_residue (owner : Key → Nat) (ps : List (List Op)) (tr : List Op)
    (hown : OwnKeys owner ps) (hint : Interleaving ps tr)
    (hclean : ∀ p ∈ ps, (run [] p).1 = []) : (run [] tr).1 = [] := by
  apply List.eq_nil_iff_forall_not_mem.mpr
  intro kv hkv
  rcases mem_run [] tr kv hkv with h | ⟨op, hop, hk⟩
  · cases h
  · obtain ⟨j, p, hp, hopp⟩ := mem_interleaving hint op hop
    have hj : owner kv.1 = j := by rw [← hk]; exact hown j p hp op hopp
    have h1 : restrict (fun k => decide (owner k = j)) (run [] tr).1 = [] :=
      (congrArg Prod.fst (run_thread owner ps tr hown hint j p hp)).symm.trans
        (hclean p (List.mem_of_getElem? hp))
    have : kv ∈ restrict (fun k => decide (owner k = j)) (run [] tr).1 :=
      List.mem_filter.2 ⟨hkv, by simp [hj]⟩
    rw [h1] at this
    cases this

end HclModel.Conc.Proofs
