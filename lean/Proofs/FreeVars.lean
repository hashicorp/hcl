import HclModel.Expr.FreeVars
import Proofs.EvalSteps
/-!
Evaluation depends only on the free variables (`fv`) of an expression.
-/
namespace HclModel.Proofs

theorem lookup_cons (ρ : Env) (k : String) (v : Val) (x : String) :
    Env.lookup ((k, v) :: ρ) x = if x = k then some v else Env.lookup ρ x := by
  simp [Env.lookup, lookupKey]

end HclModel.Proofs

/-! `AgreeOn` along the shapes `fv` takes: appended lists, and lists filtered by the names a binder hides. -/
namespace HclModel.AgreeOn
open Proofs
variable {S T : List String} {ρ σ : Env}

theorem left (h : AgreeOn (S ++ T) ρ σ) : AgreeOn S ρ σ :=
  fun x hx => h x (List.mem_append_left T hx)

theorem right (h : AgreeOn (S ++ T) ρ σ) : AgreeOn T ρ σ :=
  fun x hx => h x (List.mem_append_right S hx)

theorem cons {k : String} (h : AgreeOn (S.filter (· != k)) ρ σ) (v : Val) :
    AgreeOn S ((k, v) :: ρ) ((k, v) :: σ) := by
  intro x hx
  rw [lookup_cons, lookup_cons]
  split
  · rfl
  · exact h x (List.mem_filter.2 ⟨hx, bne_iff_ne.2 ‹_›⟩)

theorem bindIter {kv vv : String} (h : AgreeOn (S.filter fun x => !(iterNames kv vv).contains x) ρ σ)
    (k v : Val) : AgreeOn S (bindIter ρ kv vv k v) (bindIter σ kv vv k v) := by
  unfold HclModel.bindIter
  unfold iterNames at h
  by_cases hkv : kv = ""
  · simp only [if_pos hkv] at h ⊢
    exact cons (fun x hx => h x (by simpa using hx)) v
  · simp only [if_neg hkv] at h ⊢
    exact cons (cons (fun x hx => h x (by simpa [and_assoc, and_comm (b := ¬x = kv)] using hx)) k) v

end HclModel.AgreeOn

namespace HclModel.Proofs

mutual
theorem eval_agree (F : Cx) : ∀ (e : Expr) (ρ σ : Env), AgreeOn (fv e) ρ σ → eval F ρ e = eval F σ e
  | .lit v, ρ, σ, h => rfl
  | .var x, ρ, σ, h => by rw [eval_var, eval_var, h x (List.mem_singleton_self x)]
  | .getAttr e name, ρ, σ, h => by rw [eval_getAttr, eval_getAttr, eval_agree F e ρ σ h]
  | .index e k, ρ, σ, h => by
      rw [eval_index, eval_index, eval_agree F e ρ σ h.left, eval_agree F k ρ σ h.right]
  | .bin op l r, ρ, σ, h => by
      rw [eval_bin, eval_bin, eval_agree F l ρ σ h.left, eval_agree F r ρ σ h.right]
  | .un op e, ρ, σ, h => by rw [eval_un, eval_un, eval_agree F e ρ σ h]
  | .cond c t f, ρ, σ, h => by
      rw [eval_cond, eval_cond, eval_agree F c ρ σ h.left.left, eval_agree F t ρ σ h.left.right,
        eval_agree F f ρ σ h.right]
  | .tuple es, ρ, σ, h => by rw [eval_tuple, eval_tuple, evalList_agree F es ρ σ h]
  | .object items, ρ, σ, h => by rw [eval_object, eval_object, evalItems_agree F items ρ σ h]
  -- The step equations take the bound parts as functions of the iterator values, so the induction
  -- hypotheses rewrite under the binder.  The condition is matched as `none`/`some ce` for `ce` to be a
  -- structural argument.
  | .forTuple kv vv coll val none, ρ, σ, h => by
      have hb k v := h.right.bindIter k v
      simp only [eval_forTuple, eval_agree F coll ρ σ h.left, fun k v => eval_agree F val _ _ (hb k v).left,
        Option.map_none]
  | .forTuple kv vv coll val (some ce), ρ, σ, h => by
      have hb k v := h.right.bindIter k v
      simp only [eval_forTuple, eval_agree F coll ρ σ h.left, fun k v => eval_agree F val _ _ (hb k v).left,
        fun k v => eval_agree F ce _ _ (hb k v).right, Option.map_some]
  | .forObject kv vv coll key val none g, ρ, σ, h => by
      have hb k v := h.right.bindIter k v
      simp only [eval_forObject, eval_agree F coll ρ σ h.left, fun k v => eval_agree F key _ _ (hb k v).left.left,
        fun k v => eval_agree F val _ _ (hb k v).left.right, Option.map_none]
  | .forObject kv vv coll key val (some ce) g, ρ, σ, h => by
      have hb k v := h.right.bindIter k v
      simp only [eval_forObject, eval_agree F coll ρ σ h.left, fun k v => eval_agree F key _ _ (hb k v).left.left,
        fun k v => eval_agree F val _ _ (hb k v).left.right,
        fun k v => eval_agree F ce _ _ (hb k v).right, Option.map_some]
  | .splat anon src each, ρ, σ, h => by
      simp only [eval_splat, eval_agree F src ρ σ h.left, fun v => eval_agree F each _ _ (h.right.cons v)]
  | .template parts, ρ, σ, h => by rw [eval_template, eval_template, evalEach_agree F parts ρ σ h]
  | .tjoin t, ρ, σ, h => by rw [eval_tjoin, eval_tjoin, eval_agree F t ρ σ h]
  | .call fn args none, ρ, σ, h => by rw [eval_call, eval_call, evalEach_agree F args ρ σ h.left]; rfl
  | .call fn args (some ex), ρ, σ, h => by
      simp only [eval_call, Option.map_some, evalEach_agree F args ρ σ h.left, eval_agree F ex ρ σ h.right]
theorem evalList_agree (F : Cx) : ∀ (es : List Expr) (ρ σ : Env), AgreeOn (fvList es) ρ σ →
    evalList F ρ es = evalList F σ es
  | [], _, _, _ => rfl
  | e :: es, ρ, σ, h => by
      simp only [evalList, eval_agree F e ρ σ h.left, evalList_agree F es ρ σ h.right]
theorem evalEach_agree (F : Cx) : ∀ (es : List Expr) (ρ σ : Env), AgreeOn (fvList es) ρ σ →
    evalEach F ρ es = evalEach F σ es
  | [], _, _, _ => rfl
  | e :: es, ρ, σ, h => by
      simp only [evalEach, eval_agree F e ρ σ h.left, evalEach_agree F es ρ σ h.right]
theorem evalItems_agree (F : Cx) : ∀ (items : List (Expr × Expr)) (ρ σ : Env), AgreeOn (fvItems items) ρ σ →
    evalItems F ρ items = evalItems F σ items
  | [], _, _, _ => rfl
  | (ke, ve) :: rest, ρ, σ, h => by
      simp only [evalItems, eval_agree F ke ρ σ h.left.left, eval_agree F ve ρ σ h.left.right,
        evalItems_agree F rest ρ σ h.right]
end

theorem lookup_filter (S : List String) (ρ : Env) (x : String) (hx : x ∈ S) :
    Env.lookup (ρ.filter fun p => S.contains p.1) x = Env.lookup ρ x := by
  induction ρ with
  | nil => rfl
  | cons p ρ ih =>
    obtain ⟨k, v⟩ := p
    by_cases hk : k ∈ S
    · simp only [List.filter_cons, List.contains_iff_mem, hk, if_true]
      rw [lookup_cons, lookup_cons, ih]
    · have hne : x ≠ k := by intro e; subst e; exact hk hx
      simp only [List.filter_cons, List.contains_iff_mem, hk, if_false]
      rw [lookup_cons, ih]; simp [hne]

theorem eval_pruned (F : Cx) (e : Expr) (ρ : Env) :
    eval F (ρ.filter fun p => (fv e).contains p.1) e = eval F ρ e :=
  eval_agree F e _ _ (fun x hx => lookup_filter (fv e) ρ x hx)

theorem not_mem_scoped {x : String} {A T : List String} {p : String → Bool} (hA : x ∉ A) (hp : p x = false) :
    x ∉ A ++ T.filter p := by
  simp [hA, hp]

end HclModel.Proofs
