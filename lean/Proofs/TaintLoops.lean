import Proofs.TaintOps
import Proofs.EvalStepLemmas
import Proofs.ListLemmas
/-!
C19: object constructors (loop invariant `OInv`), `for` expressions and splats.  The `for` and splat bodies are walked once, for any predicate on the
loop state closed under their updates (`Kept`): the invariants for the values (`VInv`) and the diagnostics (`DInv`).
-/
namespace HclModel.Proofs
open Val

/-- the groups an object `for` collects under its keys expose no taint -/
def kvsTw (kvs : List (String × List Val)) : Prop := ∀ p ∈ kvs, ∀ v ∈ p.2, tw false v = true

theorem kvsTw_insert {k : String} {v : Val} (hv : tw false v = true) :
    ∀ {kvs : List (String × List Val)}, kvsTw kvs → kvsTw (groupInsert k v kvs)
  | [], _ => List.forall_mem_cons.mpr ⟨fun _ hw => List.mem_singleton.mp hw ▸ hv, fun _ hp => nomatch hp⟩
  | (k', vs) :: rest, h => by
    have hq := List.forall_mem_cons.mp h
    unfold groupInsert
    split
    · exact List.forall_mem_cons.mpr ⟨fun _ hw => List.mem_singleton.mp hw ▸ hv, h⟩
    · split
      · refine List.forall_mem_cons.mpr ⟨fun w hw => ?_, hq.2⟩
        exact (List.mem_append.mp hw).elim (hq.1 w) fun e => List.mem_singleton.mp e ▸ hv
      · exact List.forall_mem_cons.mpr ⟨hq.1, kvsTw_insert hv hq.2⟩

theorem tw_headD {vs : List Val} (h : ∀ v ∈ vs, tw false v = true) : tw false (vs.headD Val.dynVal) = true := by
  cases vs with
  | nil => exact tw_dynVal _
  | cons v vs => exact h v (by simp)

theorem tw_node {v : Val} (hf : flOK v.fl) (h : v.fl.m = true ∨ twKids false v = true) : tw false v = true := by
  rw [tw_eq, Bool.and_eq_true]
  constructor
  · cases hg : v.fl.g
    · rfl
    · simp [hf hg]
  · rcases h with h | h
    · rw [h]; exact twKids_true v
    · exact twKids_mono (by intro h; cases h) h

theorem tw_object_of {f : Fl} {kvs : List (String × Val)} (hf : flOK f)
    (h : f.m = true ∨ ∀ p ∈ kvs, tw false p.2 = true) : tw false (Val.object f kvs) = true :=
  tw_node (v := .object f kvs) hf (h.imp id twF_of_mem)

theorem tw_tuple_of {f : Fl} {vals : List Val} (hf : flOK f)
    (h : f.m = true ∨ ∀ v ∈ vals, tw false v = true) : tw false (Val.tuple f vals) = true :=
  tw_node (v := .tuple f vals) hf (h.imp id twL_of_mem)

/-- invariant of the object constructor's loop over its items -/
def OInv (r : ForSt × Bool) : Prop := flOK r.1.marks ∧ kvsTw r.1.kvs

theorem OInv_init : OInv (({} : ForSt), true) := ⟨flOK_none, fun _ hp => by cases hp⟩

theorem itemStep_shape (ko vo : Out) (r : ForSt × Bool) :
    NoNew (itemStep ko vo r).1.diags (ko.2 ++ vo.2 ++ r.1.diags) ∧
    ((itemStep ko vo r).1.marks = r.1.marks ∨ (itemStep ko vo r).1.marks = r.1.marks.join ko.1.fl) ∧
    ((itemStep ko vo r).1.kvs = r.1.kvs ∨ ∃ s, (itemStep ko vo r).1.kvs = groupInsert s vo.1 r.1.kvs) := by
  obtain ⟨k, kd⟩ := ko
  obtain ⟨v, vd⟩ := vo
  obtain ⟨st, known⟩ := r
  unfold itemStep
  dsimp only
  by_cases h1 : hasErrors kd = true
  · rw [if_pos h1]; exact ⟨NoNew.refl _, Or.inl rfl, Or.inl rfl⟩
  rw [if_neg h1]
  by_cases h2 : k.isNull = true
  · rw [if_pos h2]; exact ⟨NoNew.insert _ _ rfl, Or.inl rfl, Or.inl rfl⟩
  rw [if_neg h2]
  cases hks : tryConvert k.unmark.1 .str with
  | error d => exact ⟨NoNew.insert _ _ (frags_convErr hks _), Or.inr rfl, Or.inl rfl⟩
  | ok ks =>
    dsimp only
    split
    · refine ⟨NoNew.refl _, Or.inr rfl, ?_⟩
      dsimp only
      split
      · exact Or.inl rfl
      · exact Or.inr ⟨_, rfl⟩
    · exact ⟨NoNew.refl _, Or.inr rfl, Or.inl rfl⟩

theorem itemStep_OInv {ko vo : Out} {r : ForSt × Bool} (hk : tw false ko.1 = true) (hv : tw false vo.1 = true)
    (h : OInv r) : OInv (itemStep ko vo r) := by
  obtain ⟨_, hm, hkvs⟩ := itemStep_shape ko vo r
  refine ⟨?_, ?_⟩
  · rcases hm with e | e <;> rw [e]
    · exact h.1
    · exact flOK_join h.1 (tw_flOK hk)
  · rcases hkvs with e | ⟨s, e⟩ <;> rw [e]
    · exact h.2
    · exact kvsTw_insert hv h.2

theorem objectOut_tw {r : ForSt × Bool} (h : OInv r) : tw false (objectOut r).1 = true := by
  obtain ⟨st, known⟩ := r
  unfold objectOut
  dsimp only
  split
  · exact tw_dynVal _
  · refine tw_object_of h.1 (Or.inr ?_)
    intro p hp
    obtain ⟨⟨k, vs⟩, hq, rfl⟩ := List.mem_map.mp hp
    exact tw_headD (h.2 _ hq)

/-- What a predicate on the loop state has to be closed under to be kept by the loop bodies: the updates they
    make, with the diagnostics (`okD`), flags (`okF`) and values (`okV`) of the sub-evaluations. -/
structure Kept (P : ForSt → Prop) (okD : List Diag → Prop) (okF : Fl → Prop) (okV : Val → Prop) : Prop where
  free : ∀ {d : Diag}, d.frags = [] → okD [d]
  diags : ∀ {st : ForSt} {ds : List Diag}, P st → okD ds → P { st with diags := st.diags ++ ds }
  marks : ∀ {st : ForSt} {f : Fl}, P st → okF f → P { st with marks := st.marks.join f }
  known : ∀ {st : ForSt} (b : Bool), P st → P { st with known := b }
  vals : ∀ {st : ForSt} {v : Val}, P st → okV v → P { st with vals := st.vals ++ [v] }
  kvs : ∀ {st : ForSt} {v : Val} (k : String), P st → okV v → P { st with kvs := groupInsert k v st.kvs }

theorem keyVerdict_fl {kr ks : Val} {p : Fl × String} (h : tryConvert kr .str = .ok ks)
    (hp : keyVerdict ks = some (some p)) : p.1 = kr.fl.unmark := by
  unfold keyVerdict at hp
  split at hp
  · rename_i kf k hk
    cases hp
    have := congrArg Val.fl hk
    rw [← tryConvert_fl h]
    simpa using this.symm
  · cases hp

section Kept
variable {P : ForSt → Prop} {okD : List Diag → Prop} {okF : Fl → Prop} {okV : Val → Prop} (K : Kept P okD okF okV)
include K

theorem Kept.fail {st : ForSt} {d : Diag} (h : P st) (hd : d.frags = []) : P (failSt st d) := by
  unfold failSt
  split
  · exact K.known false (K.diags h (K.free hd))
  · exact K.known false h

/-- The second part serves `Kept.obj`, whose body echoes the key: by then the mark of the operand is in the state,
    and what is handed on was read off the converted operand. -/
theorem Kept.ofGate {α : Type} {nullMsg errMsg : String} {ty : Ty} {early : Bool} {verdict : Val → Option (Option α)}
    {o : Out} {st : ForSt} (h : P st) (hd : okD o.2) (hf : okF o.1.fl) :
    P (gate nullMsg errMsg ty early verdict o st).1 ∧
    ∀ a, (gate nullMsg errMsg ty early verdict o st).2 = some a →
      (o.1.fl.m = true → (gate nullMsg errMsg ty early verdict o st).1.marks.m = true) ∧
      ∃ b, tryConvert o.1 ty = .ok b ∧ verdict b = some (some a) := by
  have h1 := K.diags h hd
  have h2 := K.marks h1 hf
  unfold gate
  dsimp only
  by_cases hn : o.1.isNull = true
  · rw [if_pos hn]; exact ⟨K.fail h1 rfl, fun _ e => nomatch e⟩
  rw [if_neg hn]
  by_cases hk : (early && !o.1.isKnown) = true
  · rw [if_pos hk]; exact ⟨K.known false h2, fun _ e => nomatch e⟩
  rw [if_neg hk]
  cases hc : tryConvert o.1 ty with
  | error d => exact ⟨K.fail h2 (frags_convErr hc _), fun _ e => nomatch e⟩
  | ok b =>
    dsimp only
    split
    · exact ⟨K.known false h2, fun _ e => nomatch e⟩
    · split
      · rename_i r hr
        exact ⟨h2, fun a e => ⟨fun hm => by simp [hm], b, rfl, by rw [hr, show r = some a from e]⟩⟩
      · exact ⟨K.known false h2, fun _ e => nomatch e⟩

theorem Kept.tup {st : ForSt} (ev : Val → Val → Out) (kv : Val × Val) (h : P st)
    (hd : okD (ev kv.1 kv.2).2) (hv : okV (ev kv.1 kv.2).1) : P (tupStep ev st kv) :=
  K.vals (K.diags h hd) hv

theorem Kept.forTuple {st : ForSt} (ev : Val → Val → Out) (ec : Option (Val → Val → Out)) (kv : Val × Val)
    (h : P st) (hd : okD (ev kv.1 kv.2).2) (hv : okV (ev kv.1 kv.2).1)
    (hc : ∀ c, ec = some c → okD (c kv.1 kv.2).2 ∧ okF (c kv.1 kv.2).1.fl) : P (forTupleStep ev ec st kv) := by
  cases ec with
  | none => exact K.tup ev kv h hd hv
  | some c =>
    rw [forTupleStep_gate]
    have hg : P (tupGate (c kv.1 kv.2) st).1 := (K.ofGate h (hc c rfl).1 (hc c rfl).2).1
    exact gated_of hg fun _ _ => K.tup ev kv hg hd hv

/-- the state after the diagnostic that echoes a key; `kf` are the flags of the key value -/
def dupKey (st : ForSt) (kf : Fl) (k : String) : ForSt :=
  { st with diags := st.diags ++ [⟨"Duplicate object key", if st.marks.m then [] else [.str kf.unmark k]⟩] }

/-- `hdup`: the key is echoed in a state whose marks include those of the key value. -/
theorem Kept.obj {st : ForSt} (g : Bool) (ek ev : Val → Val → Out) (kv : Val × Val) (h : P st)
    (hkd : okD (ek kv.1 kv.2).2) (hkf : okF (ek kv.1 kv.2).1.fl) (hd : okD (ev kv.1 kv.2).2) (hv : okV (ev kv.1 kv.2).1)
    (hdup : g = false → ∀ (st' : ForSt) (k : String), P st' → ((ek kv.1 kv.2).1.fl.m = true → st'.marks.m = true) →
      P (dupKey st' (ek kv.1 kv.2).1.fl k)) :
    P (objStep g ek ev st kv) := by
  rw [objStep_gate]
  obtain ⟨hg, hs⟩ : P (keyGate (ek kv.1 kv.2) st).1 ∧ _ := K.ofGate h hkd hkf
  refine gated_of hg fun p e => ?_
  obtain ⟨hm, ks, hks, hp⟩ := hs p e
  have h3 := K.diags hg hd
  unfold objIns
  dsimp only
  cases g with
  | true => exact K.kvs _ h3 hv
  | false =>
    rw [if_neg Bool.false_ne_true]
    split
    · rw [keyVerdict_fl hks hp]
      exact hdup rfl _ _ h3 hm
    · exact K.kvs _ h3 hv

theorem Kept.forObject {st : ForSt} (g : Bool) (ek ev : Val → Val → Out) (ec : Option (Val → Val → Out))
    (kv : Val × Val) (h : P st)
    (hkd : okD (ek kv.1 kv.2).2) (hkf : okF (ek kv.1 kv.2).1.fl) (hd : okD (ev kv.1 kv.2).2) (hv : okV (ev kv.1 kv.2).1)
    (hc : ∀ c, ec = some c → okD (c kv.1 kv.2).2 ∧ okF (c kv.1 kv.2).1.fl)
    (hdup : g = false → ∀ (st' : ForSt) (k : String), P st' → ((ek kv.1 kv.2).1.fl.m = true → st'.marks.m = true) →
      P (dupKey st' (ek kv.1 kv.2).1.fl k)) :
    P (forObjectStep g ek ev ec st kv) := by
  cases ec with
  | none => exact K.obj g ek ev kv h hkd hkf hd hv hdup
  | some c =>
    rw [forObjectStep_gate]
    have hg : P (objGate (c kv.1 kv.2) st).1 := (K.ofGate h (hc c rfl).1 (hc c rfl).2).1
    exact gated_of hg fun _ _ => K.obj g ek ev kv hg hkd hkf hd hv hdup

end Kept

/-- loop invariant for the values: `cm` = flags of the collection -/
def VInv (cm : Fl) (st : ForSt) : Prop :=
  (cm.m = true → st.marks.m = true) ∧ flOK st.marks ∧
    (st.marks.m = true ∨ ((∀ v ∈ st.vals, tw false v = true) ∧ kvsTw st.kvs))

theorem VInv_init {cm : Fl} (ds : List Diag) (h : flOK cm) : VInv cm ({ diags := ds, marks := cm } : ForSt) :=
  ⟨id, h, Or.inr ⟨fun _ hv => (nomatch hv), fun _ hp => (nomatch hp)⟩⟩

/-- under a marked collection nothing is asked of the sub-evaluations -/
theorem VInv_kept (cm : Fl) :
    Kept (VInv cm) (fun _ => True) (fun f => cm.m = true ∨ flOK f) (fun v => cm.m = true ∨ tw false v = true) where
  free _ := trivial
  diags h _ := h
  known _ h := h
  marks {st f} h hf := by
    refine ⟨fun hc => by simp [h.1 hc], ?_, h.2.2.imp (fun h1 => by simp [h1]) id⟩
    rcases hf with hf | hf
    · exact fun _ => by simp [h.1 hf]
    · exact flOK_join h.2.1 hf
  vals {st v} h hv := by
    refine ⟨h.1, h.2.1, ?_⟩
    rcases h.2.2 with h1 | h1
    · exact Or.inl h1
    · rcases hv with hc | hv
      · exact Or.inl (h.1 hc)
      · refine Or.inr ⟨fun w hw => ?_, h1.2⟩
        rcases List.mem_append.mp hw with hw | hw
        · exact h1.1 w hw
        · rw [List.mem_singleton.mp hw]; exact hv
  kvs {st v} k h hv := by
    refine ⟨h.1, h.2.1, ?_⟩
    rcases h.2.2 with h1 | h1
    · exact Or.inl h1
    · rcases hv with hc | hv
      · exact Or.inl (h.1 hc)
      · exact Or.inr ⟨h1.1, kvsTw_insert hv h1.2⟩

theorem forTupleFin_tw {cm : Fl} {st : ForSt} (h : VInv cm st) : tw false (forTupleFin st).1 = true := by
  unfold forTupleFin
  split
  · exact tw_dyn_withFl h.2.1
  · exact tw_tuple_of h.2.1 (h.2.2.imp id fun h => h.1)

theorem forObjectFin_tw {cm : Fl} {st : ForSt} (g : Bool) (h : VInv cm st) :
    tw false (forObjectFin g st).1 = true := by
  unfold forObjectFin
  split
  · exact tw_dyn_withFl h.2.1
  · split <;> refine tw_object_of h.2.1 (h.2.2.imp id fun h1 p hp => ?_) <;>
      obtain ⟨⟨k, vs⟩, hq, rfl⟩ := List.mem_map.mp hp
    · exact tw_tuple_of flOK_none (Or.inr (h1.2 _ hq))
    · exact tw_headD (h1.2 _ hq)

theorem probeCond_fl {o : Out} (h : tw false o.1 = true) : flOK (probeCond o).2.1 := by
  obtain ⟨r, pd⟩ := o
  unfold probeCond
  dsimp only
  split
  · exact flOK_none
  · split
    · exact tw_flOK h
    · exact tw_flOK h

theorem probeCond_NoNew (o : Out) : NoNew (probeCond o).1 o.2 := by
  obtain ⟨r, pd⟩ := o
  unfold probeCond
  dsimp only
  split
  · exact (NoNew.refl pd).snoc rfl
  · split
    · exact (NoNew.refl pd).snoc (frags_convErr ‹_› _)
    · exact NoNew.refl pd

theorem forOut_cases {Q : Out → Prop} (co : Out) (probe : Option Out) (stepf : ForSt → Val × Val → ForSt)
    (fin : ForSt → Out)
    (hdyn : ∀ ds, NoNew ds (co.2 ++ ((probe.map probeCond).map (·.1)).getD []) → Q (Val.dynVal, ds))
    (hunk : ∀ pm, pm = ((probe.map probeCond).map (·.2.1)).getD Fl.none →
      Q (Val.dynVal.withFl (co.1.fl.join ⟨pm.m, pm.g⟩), co.2 ++ ((probe.map probeCond).map (·.1)).getD []))
    (hloop : ∀ els, elements co.1.unmark.1 = some els →
      Q (fin (els.foldl stepf { diags := co.2 ++ ((probe.map probeCond).map (·.1)).getD [], marks := co.1.fl }))) :
    Q (forOut co probe stepf fin) := by
  obtain ⟨cv, cd⟩ := co
  have hcd : NoNew cd (cd ++ ((probe.map probeCond).map (·.1)).getD []) := (NoNew.refl cd).app_right _
  unfold forOut
  dsimp only
  by_cases h1 : cv.isNull = true
  · rw [if_pos h1]; exact hdyn _ (hcd.append (NoNew.free (frags_single_free rfl)))
  rw [if_neg h1]
  by_cases h2 : (cv.typeOf == .dyn) = true
  · rw [if_pos h2]; exact hdyn _ hcd
  rw [if_neg h2]
  by_cases h3 : (!canIterate cv.unmark.1.typeOf) = true
  · rw [if_pos h3]; exact hdyn _ (hcd.append (NoNew.free (frags_single_free rfl)))
  rw [if_neg h3]
  split
  · exact hdyn _ (NoNew.refl _)
  · split
    · exact hunk _ rfl
    · exact hloop _ ‹_›

theorem forOut_tw (co : Out) (probe : Option Out) (stepf : ForSt → Val × Val → ForSt) (fin : ForSt → Out)
    (hc : tw false co.1 = true) (hp : ∀ po, probe = some po → tw false po.1 = true)
    (hstep : ∀ els, elements co.1.unmark.1 = some els → ∀ st kv, kv ∈ els → VInv co.1.fl st →
      VInv co.1.fl (stepf st kv))
    (hfin : ∀ st, VInv co.1.fl st → tw false (fin st).1 = true) :
    tw false (forOut co probe stepf fin).1 = true := by
  have hcf := tw_flOK hc
  refine forOut_cases (Q := fun o => tw false o.1 = true) co probe stepf fin (fun _ _ => tw_dynVal _) ?_ ?_
  · rintro pm rfl
    refine tw_dyn_withFl (flOK_join hcf ?_)
    cases probe with
    | none => exact flOK_none
    | some po => exact probeCond_fl (hp po rfl)
  · intro els hels
    exact hfin _ (foldl_inv (VInv co.1.fl) stepf els _ (VInv_init _ hcf) (hstep els hels))

/-- loop invariant for the diagnostics, beside `VInv`: `cm` = flags of the collection -/
def DInv (cm : Fl) (st : ForSt) : Prop := (cm.m = true → st.marks.m = true) ∧ fragsClean st.diags

theorem DInv_diags {cm : Fl} {st : ForSt} (ds : List Diag) (h : DInv cm st) (hd : NoNew ds st.diags) :
    DInv cm { st with diags := ds } := ⟨h.1, fragsClean_of_NoNew hd h.2⟩

theorem DInv_known {cm : Fl} {st : ForSt} (b : Bool) (h : DInv cm st) : DInv cm { st with known := b } := h

theorem DInv_kept (cm : Fl) : Kept (DInv cm) fragsClean (fun _ => True) (fun _ => True) where
  free h := fragsClean_single_free h
  diags h hd := ⟨h.1, fragsClean_append h.2 hd⟩
  marks h _ := ⟨fun hc => by simp [h.1 hc], h.2⟩
  known _ h := h
  vals h _ := h
  kvs _ h _ := h

theorem untainted_str {kf : Fl} {k : String} (h : kf.g = false) : untainted (.str kf k) = true := by
  simp [untainted, flagsDeep, h]

/-- The echoed key: if the key value is tainted, the collection or the key value is marked (`hkey`), and so
    is the state; then nothing is echoed. -/
theorem DInv_dup {cm kf : Fl} {st : ForSt} (k : String) (h : DInv cm st) (hkm : kf.m = true → st.marks.m = true)
    (hkey : kf.g = true → cm.m = true ∨ kf.m = true) :
    DInv cm (dupKey st kf k) := by
  refine ⟨h.1, fragsClean_append h.2 ?_⟩
  intro d hd f hf
  rw [List.mem_singleton.mp hd] at hf
  dsimp only at hf
  split at hf
  · cases hf
  · rename_i hm
    rw [List.mem_singleton.mp hf]
    apply untainted_str
    cases hg : kf.g
    · exact hg
    · exact absurd ((hkey hg).elim h.1 hkm) hm

theorem forOut_frags (co : Out) (probe : Option Out) (stepf : ForSt → Val × Val → ForSt) (fin : ForSt → Out)
    (hc : fragsClean co.2) (hp : ∀ po, probe = some po → fragsClean po.2)
    (hstep : ∀ els, elements co.1.unmark.1 = some els → ∀ st kv, kv ∈ els → DInv co.1.fl st →
      DInv co.1.fl (stepf st kv))
    (hfin : ∀ st, (fin st).2 = st.diags) :
    fragsClean (forOut co probe stepf fin).2 := by
  have hpd : fragsClean (co.2 ++ ((probe.map probeCond).map (·.1)).getD []) := by
    refine fragsClean_append hc ?_
    cases probe with
    | none => exact fragsClean_nil
    | some po => exact fragsClean_of_NoNew (probeCond_NoNew po) (hp po rfl)
  refine forOut_cases (Q := fun o => fragsClean o.2) co probe stepf fin
    (fun _ h => fragsClean_of_NoNew h hpd) (fun _ _ => hpd) fun els hels => ?_
  rw [hfin]
  exact (foldl_inv (DInv co.1.fl) stepf els _ ⟨id, hpd⟩ (hstep els hels)).2

theorem splatSrc_tw {sv : Val} (h : tw false sv = true) : tw false (splatSrc sv) = true := by
  unfold splatSrc
  split
  · unfold withFl
    rw [tw_setFl_eq]
    simp only [fl_tuple, none_join, Bool.false_or, twKids, twL, Bool.and_true, Bool.and_eq_true, Bool.or_eq_true,
      Bool.not_eq_true']
    constructor
    · cases hg : sv.fl.g
      · exact Or.inl rfl
      · exact Or.inr (tw_flOK h hg)
    · exact tw_mono (by intro h; cases h) h
  · exact h

theorem splatItems_tw {v : Val} {i : Bool} (h : tw i v = true) : ∀ it ∈ splatItems v, tw (i || v.fl.m) it = true := by
  intro it hit
  unfold splatItems at hit
  split at hit
  · rw [tw_list_eq, Bool.and_eq_true] at h
    exact twL_mem h.2 it hit
  · rw [tw_tuple_eq, Bool.and_eq_true] at h
    exact twL_mem h.2 it hit
  · cases hit

/-- the values a splat returns: `f` are the flags of the source, `vals` the results of its items -/
inductive SplatVal (f : Fl) (vals : List Val) : Val → Prop
  | dyn : SplatVal f vals Val.dynVal
  | dynFl : SplatVal f vals (Val.dynVal.withFl f)
  | unk (t : Ty) : SplatVal f vals ((Val.unk Fl.none t).withFl f)
  | nil : SplatVal f vals ((Val.tuple Fl.none []).withFl f)
  | tuple : SplatVal f vals ((Val.tuple Fl.none vals).withFl f)
  | list (t : Ty) : SplatVal f vals ((Val.list Fl.none t vals).withFl f)

theorem SplatVal.tw {f : Fl} {vals : List Val} {v : Val} (h : SplatVal f vals v) (hf : flOK f)
    (hv : f.m = true ∨ ∀ v ∈ vals, tw false v = true) : tw false v = true := by
  cases h with
  | dyn => exact tw_dynVal _
  | dynFl => exact tw_dyn_withFl hf
  | unk t => exact tw_withFl (tw_unk_of flOK_none t) hf
  | nil => exact tw_withFl (tw_tuple_of flOK_none (Or.inr fun _ h => nomatch h)) hf
  | tuple => exact hv.elim (tw_withFl_marked _) fun hv => tw_withFl (tw_tuple_of flOK_none (Or.inr hv)) hf
  | list t =>
    exact hv.elim (tw_withFl_marked _) fun hv =>
      tw_withFl (tw_node (v := .list Fl.none t vals) flOK_none (Or.inr (twL_of_mem hv))) hf

theorem splatFinish_shape (sv : Val) (sm : Fl) (rt : Ty × List Diag) (vals : List Val) (ds : List Diag) :
    SplatVal sm vals (splatFinish sv sm rt vals ds).1 ∧ NoNew (splatFinish sv sm rt vals ds).2 (ds ++ rt.2) := by
  unfold splatFinish
  split
  · split
    · split
      · exact ⟨.list _, NoNew.refl _⟩
      · exact ⟨.dyn, NoNew.free (frags_unsupportedOut _)⟩
    · split
      · exact ⟨.list _, (NoNew.refl _).app_right _⟩
      · exact ⟨.dyn, NoNew.free (frags_unsupportedOut _)⟩
  · exact ⟨.tuple, (NoNew.refl _).app_right _⟩

theorem splatOut_shape (keep : Bool) (so : Out) (each : Val → Out) :
    SplatVal so.1.fl (((splatElems so.1).map each).map (·.1)) (splatOut keep so each).1 ∧
    NoNew (splatOut keep so each).2
      (so.2 ++ ((splatElems so.1).map each).flatMap (·.2) ++ (splatResultTy each (splatSrc so.1)).2) := by
  obtain ⟨sv, sd⟩ := so
  rw [splatOut_eq]
  unfold splatElems
  dsimp only
  rw [splatSrc_fl]
  generalize splatResultTy each (splatSrc sv) = rt
  generalize (splatItems (splatSrc sv).unmark.1).map each = rs
  have hsd : NoNew sd (sd ++ rs.flatMap (·.2) ++ rt.2) := ((NoNew.refl sd).app_right _).app_right _
  have hds : NoNew (sd ++ rs.flatMap (·.2)) (sd ++ rs.flatMap (·.2) ++ rt.2) := (NoNew.refl _).app_right _
  by_cases h1 : hasErrors sd = true
  · rw [if_pos h1]; exact ⟨.dyn, hsd⟩
  rw [if_neg h1]
  by_cases h2 : sv.isNull = true
  · rw [if_pos h2]
    split
    · exact ⟨.nil, hsd⟩
    · exact ⟨.dyn, hsd.append (NoNew.free (frags_single_free rfl))⟩
  rw [if_neg h2]
  by_cases h3 : (sv.typeOf == .dyn) = true
  · rw [if_pos h3]; exact ⟨.dynFl, hsd⟩
  rw [if_neg h3]
  by_cases h4 : (!(splatSrc sv).isKnown) = true
  · rw [if_pos h4]; exact ⟨.unk _, hsd.append (NoNew.of_sub fun d hd => List.mem_append_right _ hd)⟩
  rw [if_neg h4]
  by_cases h5 : (splatAutoUp sv && !sv.isKnown) = true
  · rw [if_pos h5]; exact ⟨.dynFl, hds⟩
  rw [if_neg h5]
  by_cases h6 : (!rs.all fun r => !hasErrors r.2) = true
  · rw [if_pos h6]
    refine ⟨.unk _, ?_⟩
    split
    · exact NoNew.refl _
    · exact hds
  rw [if_neg h6]
  exact ⟨(splatFinish_shape ..).1, (splatFinish_shape ..).2⟩

theorem splatOut_tw (keep : Bool) (so : Out) (each : Val → Out) (hs : tw false so.1 = true)
    (heach : so.1.fl.m = true ∨ ∀ it ∈ splatElems so.1, tw false (each it).1 = true) :
    tw false (splatOut keep so each).1 = true := by
  refine (splatOut_shape keep so each).1.tw (tw_flOK hs) (heach.imp id fun h v hv => ?_)
  simp only [List.map_map, List.mem_map, Function.comp] at hv
  obtain ⟨it, hit, rfl⟩ := hv
  exact h it hit

theorem splatResultTy_frags (each : Val → Out) (sv : Val) (heach : ∀ it, fragsClean (each it).2) :
    fragsClean (splatResultTy each sv).2 := by
  unfold splatResultTy
  dsimp only
  split
  · exact heach _
  · apply fragsClean_flatMap
    intro x hx
    obtain ⟨t, _, rfl⟩ := List.mem_map.mp hx
    exact heach _
  · exact fragsClean_nil

theorem splatOut_frags (keep : Bool) (so : Out) (each : Val → Out) (hs : fragsClean so.2)
    (heach : ∀ it, fragsClean (each it).2) : fragsClean (splatOut keep so each).2 := by
  refine fragsClean_of_NoNew (splatOut_shape keep so each).2
    (fragsClean_append (fragsClean_append hs (fragsClean_flatMap _ _ fun x hx => ?_)) (splatResultTy_frags each _ heach))
  obtain ⟨it, _, rfl⟩ := List.mem_map.mp hx
  exact heach it

end HclModel.Proofs
