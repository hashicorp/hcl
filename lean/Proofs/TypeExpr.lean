import HclModel.Syntax.TypeExpr
/-!
C20 (type expressions): `parseType (typeString ty) = some ty`, unless an object type has `for` as its first
attribute name.
-/
namespace HclModel.TypeExpr.Proofs
open HclModel.TypeExpr

/-- the continuation does not start with a comma (so a list of items ends here) -/
def NoComma (rest : List Tok) : Prop := ∀ r, rest ≠ .comma :: r

theorem typeString_head (ty : CTy) : ∃ s r, typeString ty = .ident s :: r := by
  cases ty <;> exact ⟨_, _, rfl⟩

theorem typeString_pos (ty : CTy) : 1 ≤ (typeString ty).length := by
  obtain ⟨s, r, h⟩ := typeString_head ty
  simp [h]

theorem typeStrings_head : ∀ (ts : List CTy), ts ≠ [] → ∃ s r, typeStrings ts = .ident s :: r
  | [], h => absurd rfl h
  | [t], _ => by
    obtain ⟨s, r, h⟩ := typeString_head t
    exact ⟨s, r, by simp [typeStrings, h]⟩
  | t :: t2 :: ts, _ => by
    obtain ⟨s, r, h⟩ := typeString_head t
    exact ⟨s, _, by simp [typeStrings, h]; rfl⟩
theorem fieldStrings_head : ∀ (k : String) (t : CTy) (fs : List (String × CTy)),
    ∃ r, fieldStrings ((k, t) :: fs) = .ident k :: r
  | k, t, [] => ⟨_, by simp [fieldStrings]; rfl⟩
  | k, t, f2 :: fs => ⟨_, by simp [fieldStrings]; rfl⟩

mutual
theorem getType_print : ∀ (ty : CTy) (fuel : Nat) (rest : List Tok), noLeadingFor ty = true →
    (typeString ty).length ≤ fuel → getType fuel (typeString ty ++ rest) = some (ty, rest)
  | ty, 0, _, _, hf => absurd (typeString_pos ty) (by omega)
  | .str, f+1, rest, _, _ | .num, f+1, rest, _, _ | .bool, f+1, rest, _, _ | .any, f+1, rest, _, _ => by
    simp [typeString, getType]
  | .list t, f+1, rest, h, hf | .set t, f+1, rest, h, hf | .map t, f+1, rest, h, hf => by
    have ih := getType_print t f (.rparen :: rest) h
      (by simp [typeString] at hf; omega)
    simp [typeString, getType, ih]
  | .tuple [], f+1, rest, _, _ => by simp [typeString, typeStrings, getType]
  | .tuple (t :: ts), f+1, rest, h, hf => by
    have ih := getTypes_print (t :: ts) f (.rbrack :: .rparen :: rest) (by simp)
      (by intro r hr; cases hr) h
      (by simp [typeString] at hf; omega)
    obtain ⟨s, r, hs⟩ := typeStrings_head (t :: ts) (by simp)
    rw [hs, List.cons_append] at ih
    simp [typeString, getType, hs, ih]
  | .object [], f+1, rest, _, _ => by simp [typeString, fieldStrings, getType]
  | .object ((k, t) :: fs), f+1, rest, h, hf => by
    have hk : k ≠ "for" := by
      intro hk; subst hk; simp [noLeadingFor] at h
    have ih := getFields_print ((k, t) :: fs) f (.rbrace :: .rparen :: rest) (by simp)
      (by intro r hr; cases hr) (by simp [noLeadingFor] at h; exact h.2)
      (by simp [typeString] at hf; omega)
    obtain ⟨r, hs⟩ := fieldStrings_head k t fs
    rw [hs, List.cons_append] at ih
    simp [typeString, getType, hs, ih, hk]
theorem getTypes_print : ∀ (ts : List CTy) (fuel : Nat) (rest : List Tok), ts ≠ [] → NoComma rest →
    noLeadingForAll ts = true → (typeStrings ts).length + 1 ≤ fuel →
    getTypes fuel (typeStrings ts ++ rest) = some (ts, rest)
  | [], _, _, hne, _, _, _ => absurd rfl hne
  | _ :: _, 0, _, _, _, _, hf => absurd hf (Nat.not_succ_le_zero _)
  | [t], f+1, rest, _, hnc, h, hf => by
    have ih := getType_print t f rest (by simpa [noLeadingForAll] using h)
      (by simp [typeStrings] at hf; omega)
    simp only [typeStrings, getTypes, ih]
    cases rest with
    | nil => rfl
    | cons a r => cases a <;> first | rfl | exact absurd rfl (hnc r)
  | t :: t2 :: ts, f+1, rest, _, hnc, h, hf => by
    have h' : noLeadingFor t = true ∧ noLeadingForAll (t2 :: ts) = true := by
      simpa [noLeadingForAll] using h
    have hl : (typeStrings (t :: t2 :: ts)).length =
        (typeString t).length + 1 + (typeStrings (t2 :: ts)).length := by
      simp [typeStrings]; omega
    have ih1 := getType_print t f (.comma :: (typeStrings (t2 :: ts) ++ rest)) h'.1 (by omega)
    have ih2 := getTypes_print (t2 :: ts) f rest (by simp) hnc h'.2 (by omega)
    simp [typeStrings, getTypes, ih1, ih2]
theorem getFields_print : ∀ (fs : List (String × CTy)) (fuel : Nat) (rest : List Tok), fs ≠ [] →
    NoComma rest → noLeadingForFields fs = true → (fieldStrings fs).length + 1 ≤ fuel →
    getFields fuel (fieldStrings fs ++ rest) = some (fs, rest)
  | [], _, _, hne, _, _, _ => absurd rfl hne
  | _ :: _, 0, _, _, _, _, hf => absurd hf (Nat.not_succ_le_zero _)
  | [(k, t)], f+1, rest, _, hnc, h, hf => by
    have ih := getType_print t f rest (by simpa [noLeadingForFields] using h)
      (by simp [fieldStrings] at hf; omega)
    simp only [fieldStrings, getFields, List.cons_append, List.nil_append, ih]
    cases rest with
    | nil => rfl
    | cons a r => cases a <;> first | rfl | exact absurd rfl (hnc r)
  | (k, t) :: f2 :: fs, f+1, rest, _, hnc, h, hf => by
    have h' : noLeadingFor t = true ∧ noLeadingForFields (f2 :: fs) = true := by
      simpa [noLeadingForFields] using h
    have hl : (fieldStrings ((k, t) :: f2 :: fs)).length =
        2 + (typeString t).length + 1 + (fieldStrings (f2 :: fs)).length := by
      simp [fieldStrings]; omega
    have ih1 := getType_print t f (.comma :: (fieldStrings (f2 :: fs) ++ rest)) h'.1 (by omega)
    have ih2 := getFields_print (f2 :: fs) f rest (by simp) hnc h'.2 (by omega)
    simp [fieldStrings, getFields, ih1, ih2]
end

theorem type_roundtrip (ty : CTy) (h : noLeadingFor ty = true) : parseType (typeString ty) = some ty := by
  have := getType_print ty ((typeString ty).length + 1) [] h (by omega)
  simp only [List.append_nil] at this
  simp [parseType, this]

end HclModel.TypeExpr.Proofs
