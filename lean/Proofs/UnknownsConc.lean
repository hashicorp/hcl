import Proofs.UnknownsVal
import HclModel.Expr.Gamma
/-!
`conc` and its forms on lists and fields: inversion, reflexivity; below a wholly known abstract value the concrete
one is the same up to flags (`er_of_conc`).  `wfVal` on lists and fields.
-/
namespace HclModel.Proofs.Unk
open Val

theorem conc_unk (v : Val) (f : Fl) (t : Ty) : conc v (.unk f t) = (t == .dyn || v.typeOf == t) := by
  cases v <;> simp [conc]

theorem conc_unk_iff {v : Val} {f : Fl} {t : Ty} : conc v (.unk f t) = true ↔ (t = .dyn ∨ v.typeOf = t) := by
  rw [conc_unk]; simp

theorem conc_of_type {v : Val} {f : Fl} {t : Ty} (h : typeOf v = t) : conc v (.unk f t) = true := by
  rw [conc_unk_iff]; exact Or.inr h

theorem typeOf_of_conc_unknown {v a : Val} (h : conc v a = true) (ka : a.isKnown = false)
    (hd : a.typeOf ≠ .dyn) : typeOf v = typeOf a := by
  cases a <;> simp [isKnown] at ka
  rw [conc_unk_iff] at h
  simp only [typeOf] at hd ⊢
  rcases h with h | h
  · exact absurd h hd
  · exact h

theorem conc_null_inv {v : Val} {g : Fl} {u : Ty} (h : conc v (.null g u) = true) : ∃ f, v = .null f u := by
  cases v <;> simp [conc] at h
  subst h; exact ⟨_, rfl⟩

theorem conc_str_inv {v : Val} {g : Fl} {s : String} (h : conc v (.str g s) = true) : ∃ f, v = .str f s := by
  cases v <;> simp [conc] at h
  subst h; exact ⟨_, rfl⟩

theorem conc_num_inv {v : Val} {g : Fl} {q : Rat} (h : conc v (.num g q) = true) : ∃ f, v = .num f q := by
  cases v <;> simp [conc] at h
  subst h; exact ⟨_, rfl⟩

theorem conc_bool_inv {v : Val} {g : Fl} {b : Bool} (h : conc v (.bool g b) = true) : ∃ f, v = .bool f b := by
  cases v <;> simp [conc] at h
  subst h; exact ⟨_, rfl⟩

theorem conc_list_inv {v : Val} {g : Fl} {t : Ty} {ys : List Val} (h : conc v (.list g t ys) = true) :
    ∃ f xs, v = .list f t xs ∧ concL xs ys = true := by
  cases v <;> simp [conc] at h
  obtain ⟨h1, h2⟩ := h; subst h1; exact ⟨_, _, rfl, h2⟩

theorem conc_map_inv {v : Val} {g : Fl} {t : Ty} {ys : List (String × Val)} (h : conc v (.map g t ys) = true) :
    ∃ f xs, v = .map f t xs ∧ concF xs ys = true := by
  cases v <;> simp [conc] at h
  obtain ⟨h1, h2⟩ := h; subst h1; exact ⟨_, _, rfl, h2⟩

theorem conc_tuple_inv {v : Val} {g : Fl} {ys : List Val} (h : conc v (.tuple g ys) = true) :
    ∃ f xs, v = .tuple f xs ∧ concL xs ys = true := by
  cases v <;> simp [conc] at h
  exact ⟨_, _, rfl, h⟩

theorem conc_object_inv {v : Val} {g : Fl} {ys : List (String × Val)} (h : conc v (.object g ys) = true) :
    ∃ f xs, v = .object f xs ∧ concF xs ys = true := by
  cases v <;> simp [conc] at h
  exact ⟨_, _, rfl, h⟩

theorem conc_known {v a : Val} (h : conc v a = true) (ha : a.isKnown = true) :
    v.isKnown = true ∧ v.isNull = a.isNull := by
  cases a with
  | unk => cases ha
  | null => obtain ⟨_, rfl⟩ := conc_null_inv h; exact ⟨rfl, rfl⟩
  | str => obtain ⟨_, rfl⟩ := conc_str_inv h; exact ⟨rfl, rfl⟩
  | num => obtain ⟨_, rfl⟩ := conc_num_inv h; exact ⟨rfl, rfl⟩
  | bool => obtain ⟨_, rfl⟩ := conc_bool_inv h; exact ⟨rfl, rfl⟩
  | list => obtain ⟨_, _, rfl, _⟩ := conc_list_inv h; exact ⟨rfl, rfl⟩
  | map => obtain ⟨_, _, rfl, _⟩ := conc_map_inv h; exact ⟨rfl, rfl⟩
  | tuple => obtain ⟨_, _, rfl, _⟩ := conc_tuple_inv h; exact ⟨rfl, rfl⟩
  | object => obtain ⟨_, _, rfl, _⟩ := conc_object_inv h; exact ⟨rfl, rfl⟩

theorem conc_isKnown {v a : Val} (h : conc v a = true) (ha : a.isKnown = true) : v.isKnown = true :=
  (conc_known h ha).1

theorem conc_isNull {v a : Val} (h : conc v a = true) (ha : a.isKnown = true) : v.isNull = a.isNull :=
  (conc_known h ha).2

theorem conc_null_right {v a : Val} (h : conc v a = true) (ha : a.isNull = true) : v.isNull = true := by
  cases a with
  | null => obtain ⟨_, rfl⟩ := conc_null_inv h; rfl
  | _ => cases ha

theorem conc_dyn {v a : Val} (h : conc v a = true) (hv : v.typeOf = .dyn) : a.typeOf = .dyn := by
  cases a with
  | unk _ t =>
    rcases conc_unk_iff.mp h with h | h
    · exact h
    · exact h.symm.trans hv
  | null => obtain ⟨_, rfl⟩ := conc_null_inv h; exact hv
  | str => obtain ⟨_, rfl⟩ := conc_str_inv h; cases hv
  | num => obtain ⟨_, rfl⟩ := conc_num_inv h; cases hv
  | bool => obtain ⟨_, rfl⟩ := conc_bool_inv h; cases hv
  | list => obtain ⟨_, _, rfl, _⟩ := conc_list_inv h; cases hv
  | map => obtain ⟨_, _, rfl, _⟩ := conc_map_inv h; cases hv
  | tuple => obtain ⟨_, _, rfl, _⟩ := conc_tuple_inv h; cases hv
  | object => obtain ⟨_, _, rfl, _⟩ := conc_object_inv h; cases hv

mutual
theorem conc_refl : ∀ v : Val, conc v v = true
  | .unk _ _ | .null _ _ | .str _ _ | .num _ _ | .bool _ _ => by simp [conc, typeOf]
  | .list _ _ xs => by simp [conc, concL_refl xs]
  | .tuple _ xs => by simp [conc, concL_refl xs]
  | .map _ _ xs => by simp [conc, concF_refl xs]
  | .object _ xs => by simp [conc, concF_refl xs]
theorem concL_refl : ∀ xs : List Val, concL xs xs = true
  | [] => rfl
  | x :: xs => by simp [concL, conc_refl x, concL_refl xs]
theorem concF_refl : ∀ xs : List (String × Val), concF xs xs = true
  | [] => rfl
  | (k, x) :: xs => by simp [concF, conc_refl x, concF_refl xs]
end

theorem concEnv_refl : ∀ ρ : Env, concEnv ρ ρ
  | [] => trivial
  | (_, v) :: ρ => ⟨rfl, conc_refl v, concEnv_refl ρ⟩

theorem concL_length : ∀ {xs ys : List Val}, concL xs ys = true → xs.length = ys.length
  | [], [], _ => rfl
  | [], _ :: _, h => by simp [concL] at h
  | _ :: _, [], h => by simp [concL] at h
  | x :: xs, y :: ys, h => by
    simp only [concL, Bool.and_eq_true] at h
    simp [concL_length h.2]

theorem concL_getElem? : ∀ {xs ys : List Val}, concL xs ys = true → ∀ i : Nat,
    match xs[i]?, ys[i]? with
    | some x, some y => conc x y = true
    | none, none => True
    | _, _ => False
  | [], [], _, i => by simp
  | [], _ :: _, h, _ => by simp [concL] at h
  | _ :: _, [], h, _ => by simp [concL] at h
  | x :: xs, y :: ys, h, i => by
    simp only [concL, Bool.and_eq_true] at h
    cases i with
    | zero => simpa using h.1
    | succ i => simpa using concL_getElem? h.2 i

theorem concL_append : ∀ {xs ys xs' ys' : List Val}, concL xs ys = true → concL xs' ys' = true →
    concL (xs ++ xs') (ys ++ ys') = true
  | [], [], _, _, _, h' => by simpa using h'
  | [], _ :: _, _, _, h, _ => by simp [concL] at h
  | _ :: _, [], _, _, h, _ => by simp [concL] at h
  | x :: xs, y :: ys, _, _, h, h' => by
    simp only [concL, Bool.and_eq_true] at h
    simp [concL, h.1, concL_append h.2 h']

theorem concL_singleton {x y : Val} (h : conc x y = true) : concL [x] [y] = true := by
  simp [concL, h]

theorem concL_map_withFl : ∀ {xs ys : List Val} (f g : Fl), concL xs ys = true →
    concL (xs.map fun x => x.withFl f) (ys.map fun x => x.withFl g) = true
  | [], [], _, _, _ => rfl
  | [], _ :: _, _, _, h => by simp [concL] at h
  | _ :: _, [], _, _, h => by simp [concL] at h
  | x :: xs, y :: ys, f, g, h => by
    simp only [concL, Bool.and_eq_true] at h
    simp [concL, h.1, concL_map_withFl f g h.2]

theorem concF_lookup : ∀ {xs ys : List (String × Val)}, concF xs ys = true → ∀ k : String,
    match lookupKey k xs, lookupKey k ys with
    | some x, some y => conc x y = true
    | none, none => True
    | _, _ => False
  | [], [], _, k => by simp [lookupKey]
  | [], _ :: _, h, _ => by simp [concF] at h
  | _ :: _, [], h, _ => by simp [concF] at h
  | (k1, x) :: xs, (k2, y) :: ys, h, k => by
    simp only [concF, Bool.and_eq_true, beq_iff_eq] at h
    obtain ⟨⟨h1, h2⟩, h3⟩ := h
    subst h1
    simp only [lookupKey]
    by_cases hk : k = k1
    · simp [hk, h2]
    · simp only [beq_iff_eq, hk, if_false]
      exact concF_lookup h3 k

mutual
theorem conc_unmarkDeep : ∀ (a v : Val), conc (unmarkDeep v) (unmarkDeep a) = conc v a
  | .unk _ _, v => by
    simp only [unmarkDeep, setFl, conc_unk, typeOf_unmarkDeep]
  | .null _ _, v | .str _ _, v | .num _ _, v | .bool _ _, v => by cases v <;> rfl
  | .list _ _ ys, v => by -- against another constructor both sides compute to `false`
    cases v with | list => simp [unmarkDeep, conc, concL_unmarkDeep ys] | _ => rfl
  | .tuple _ ys, v => by
    cases v with | tuple => simp [unmarkDeep, conc, concL_unmarkDeep ys] | _ => rfl
  | .map _ _ ys, v => by
    cases v with | map => simp [unmarkDeep, conc, concF_unmarkDeep ys] | _ => rfl
  | .object _ ys, v => by
    cases v with | object => simp [unmarkDeep, conc, concF_unmarkDeep ys] | _ => rfl
theorem concL_unmarkDeep : ∀ (ys xs : List Val), concL (unmarkDeepList xs) (unmarkDeepList ys) = concL xs ys
  | [], xs => by cases xs <;> simp [unmarkDeepList, concL]
  | y :: ys, xs => by
    cases xs with
    | nil => simp [unmarkDeepList, concL]
    | cons x xs => simp [unmarkDeepList, concL, conc_unmarkDeep y x, concL_unmarkDeep ys xs]
theorem concF_unmarkDeep : ∀ (ys xs : List (String × Val)),
    concF (unmarkDeepFields xs) (unmarkDeepFields ys) = concF xs ys
  | [], xs => by
    cases xs with
    | nil => simp [unmarkDeepFields, concF]
    | cons x xs => obtain ⟨k, x⟩ := x; simp [unmarkDeepFields, concF]
  | (l, y) :: ys, xs => by
    cases xs with
    | nil => simp [unmarkDeepFields, concF]
    | cons x xs =>
      obtain ⟨k, x⟩ := x
      simp [unmarkDeepFields, concF, conc_unmarkDeep y x, concF_unmarkDeep ys xs]
end

mutual
/-- the same function as `Proofs.er` (`Proofs/ValueBasics.lean`): `er_eq` -/
def er : Val → Val
  | .unk _ t => .unk Fl.none t
  | .null _ t => .null Fl.none t
  | .str _ s => .str Fl.none s
  | .num _ q => .num Fl.none q
  | .bool _ b => .bool Fl.none b
  | .list _ t xs => .list Fl.none t (erL xs)
  | .tuple _ xs => .tuple Fl.none (erL xs)
  | .map _ t kvs => .map Fl.none t (erF kvs)
  | .object _ kvs => .object Fl.none (erF kvs)
def erL : List Val → List Val
  | [] => []
  | x :: xs => er x :: erL xs
def erF : List (String × Val) → List (String × Val)
  | [] => []
  | (k, x) :: xs => (k, er x) :: erF xs
end

mutual
theorem er_eq : ∀ a : Val, er a = Proofs.er a
  | .unk _ _ | .null _ _ | .str _ _ | .num _ _ | .bool _ _ => rfl
  | .list _ _ xs | .tuple _ xs => by simp [er, Proofs.er, erL_eq xs]
  | .map _ _ xs | .object _ xs => by simp [er, Proofs.er, erF_eq xs]
theorem erL_eq : ∀ xs : List Val, erL xs = Proofs.erL xs
  | [] => rfl
  | x :: xs => by simp [erL, Proofs.erL, er_eq x, erL_eq xs]
theorem erF_eq : ∀ xs : List (String × Val), erF xs = Proofs.erF xs
  | [] => rfl
  | (k, x) :: xs => by simp [erF, Proofs.erF, er_eq x, erF_eq xs]
end

theorem eqErased_iff (a b : Val) : eqErased a b = true ↔ er a = er b :=
  er_eq a ▸ er_eq b ▸ Proofs.eqErased_iff a b
theorem eqErasedList_iff : ∀ (xs ys : List Val), eqErasedList xs ys = true ↔ erL xs = erL ys :=
  fun xs ys => erL_eq xs ▸ erL_eq ys ▸ Proofs.eqErasedList_iff xs ys
theorem eqErasedFields_iff : ∀ (xs ys : List (String × Val)), eqErasedFields xs ys = true ↔ erF xs = erF ys :=
  fun xs ys => erF_eq xs ▸ erF_eq ys ▸ Proofs.eqErasedFields_iff xs ys

theorem typeOf_er (a : Val) : typeOf (er a) = typeOf a := er_eq a ▸ Proofs.typeOf_er a
theorem typeOfList_er : ∀ xs : List Val, typeOfList (erL xs) = typeOfList xs :=
  fun xs => erL_eq xs ▸ Proofs.typeOfList_er xs
theorem typeOfFields_er : ∀ xs : List (String × Val), typeOfFields (erF xs) = typeOfFields xs :=
  fun xs => erF_eq xs ▸ Proofs.typeOfFields_er xs

theorem whollyKnown_er (a : Val) : whollyKnown (er a) = whollyKnown a := er_eq a ▸ Proofs.whollyKnown_er a
theorem whollyKnownList_er : ∀ xs : List Val, whollyKnownList (erL xs) = whollyKnownList xs :=
  fun xs => erL_eq xs ▸ Proofs.whollyKnownList_er xs
theorem whollyKnownFields_er : ∀ xs : List (String × Val), whollyKnownFields (erF xs) = whollyKnownFields xs :=
  fun xs => erF_eq xs ▸ Proofs.whollyKnownFields_er xs

mutual
theorem er_of_conc : ∀ (a v : Val), conc v a = true → whollyKnown a = true → er v = er a
  | .unk _ _, v, _, hk => by simp [whollyKnown] at hk
  | .null _ _, v, h, _ => by obtain ⟨f, rfl⟩ := conc_null_inv h; simp [er]
  | .str _ _, v, h, _ => by obtain ⟨f, rfl⟩ := conc_str_inv h; simp [er]
  | .num _ _, v, h, _ => by obtain ⟨f, rfl⟩ := conc_num_inv h; simp [er]
  | .bool _ _, v, h, _ => by obtain ⟨f, rfl⟩ := conc_bool_inv h; simp [er]
  | .list _ _ ys, v, h, hk => by
    obtain ⟨f, xs, rfl, h2⟩ := conc_list_inv h
    simp only [whollyKnown] at hk
    simp [er, erL_of_conc ys xs h2 hk]
  | .tuple _ ys, v, h, hk => by
    obtain ⟨f, xs, rfl, h2⟩ := conc_tuple_inv h
    simp only [whollyKnown] at hk
    simp [er, erL_of_conc ys xs h2 hk]
  | .map _ _ ys, v, h, hk => by
    obtain ⟨f, xs, rfl, h2⟩ := conc_map_inv h
    simp only [whollyKnown] at hk
    simp [er, erF_of_conc ys xs h2 hk]
  | .object _ ys, v, h, hk => by
    obtain ⟨f, xs, rfl, h2⟩ := conc_object_inv h
    simp only [whollyKnown] at hk
    simp [er, erF_of_conc ys xs h2 hk]
theorem erL_of_conc : ∀ (ys xs : List Val), concL xs ys = true → whollyKnownList ys = true → erL xs = erL ys
  | [], xs, h, _ => by cases xs <;> simp_all [concL, erL]
  | y :: ys, xs, h, hk => by
    cases xs with
    | nil => simp [concL] at h
    | cons x xs =>
      simp only [concL, Bool.and_eq_true] at h
      simp only [whollyKnownList, Bool.and_eq_true] at hk
      simp [erL, er_of_conc y x h.1 hk.1, erL_of_conc ys xs h.2 hk.2]
theorem erF_of_conc : ∀ (ys xs : List (String × Val)), concF xs ys = true → whollyKnownFields ys = true →
    erF xs = erF ys
  | [], xs, h, _ => by
    cases xs with
    | nil => rfl
    | cons x xs => obtain ⟨k, x⟩ := x; simp [concF] at h
  | (l, y) :: ys, xs, h, hk => by
    cases xs with
    | nil => simp [concF] at h
    | cons x xs =>
      obtain ⟨k, x⟩ := x
      simp only [concF, Bool.and_eq_true, beq_iff_eq] at h
      simp only [whollyKnownFields, Bool.and_eq_true] at hk
      simp [erF, h.1.1, er_of_conc y x h.1.2 hk.1, erF_of_conc ys xs h.2 hk.2]
end

/-- against a wholly known abstract value the concrete value is the same up to flags -/
theorem conc_whollyKnown {v a : Val} (h : conc v a = true) (hk : whollyKnown a = true) :
    typeOf v = typeOf a ∧ whollyKnown v = true := by
  have he := er_of_conc a v h hk
  constructor
  · rw [← typeOf_er v, he, typeOf_er]
  · rw [← whollyKnown_er v, he, whollyKnown_er, hk]

theorem eqErased_conc {v a w b : Val} (h1 : conc v a = true) (k1 : whollyKnown a = true)
    (h2 : conc w b = true) (k2 : whollyKnown b = true) : eqErased v w = eqErased a b := by
  have e1 := er_of_conc a v h1 k1
  have e2 := er_of_conc b w h2 k2
  rw [Bool.eq_iff_iff, eqErased_iff, eqErased_iff, e1, e2]

@[simp] theorem wfVal_setFl (v : Val) (f : Fl) : wfVal (v.setFl f) = wfVal v := by
  cases v <;> simp [setFl, wfVal]
@[simp] theorem wfVal_withFl (v : Val) (f : Fl) : wfVal (v.withFl f) = wfVal v := by simp [withFl]

theorem wfElems_mem : ∀ {t : Ty} {xs : List Val}, wfElems t xs = true → ∀ x ∈ xs, typeOf x = t ∧ wfVal x = true
  | _, [], _, x, hx => by simp at hx
  | t, y :: ys, h, x, hx => by
    simp only [wfElems, Bool.and_eq_true, beq_iff_eq] at h
    rcases List.mem_cons.mp hx with rfl | hx
    · exact h.1
    · exact wfElems_mem h.2 x hx

theorem wfElems_of_mem : ∀ {t : Ty} {xs : List Val}, (∀ x ∈ xs, typeOf x = t ∧ wfVal x = true) → wfElems t xs = true
  | _, [], _ => rfl
  | t, y :: ys, h => by
    simp only [wfElems, Bool.and_eq_true, beq_iff_eq]
    exact ⟨h y (by simp), wfElems_of_mem fun x hx => h x (by simp [hx])⟩

theorem wfElemsF_lookup : ∀ {t : Ty} {xs : List (String × Val)}, wfElemsF t xs = true →
    ∀ {k x}, lookupKey k xs = some x → typeOf x = t ∧ wfVal x = true
  | _, [], _, k, x, hx => by simp [lookupKey] at hx
  | t, (k', y) :: ys, h, k, x, hx => by
    simp only [wfElemsF, Bool.and_eq_true, beq_iff_eq] at h
    simp only [lookupKey] at hx
    split at hx
    · cases hx; exact h.1
    · exact wfElemsF_lookup h.2 hx

theorem wfElemsF_mem : ∀ {t : Ty} {xs : List (String × Val)}, wfElemsF t xs = true →
    ∀ p ∈ xs, typeOf p.2 = t ∧ wfVal p.2 = true
  | _, [], _, x, hx => by simp at hx
  | t, (k, y) :: ys, h, x, hx => by
    simp only [wfElemsF, Bool.and_eq_true, beq_iff_eq] at h
    rcases List.mem_cons.mp hx with rfl | hx
    · exact h.1
    · exact wfElemsF_mem h.2 x hx

theorem wfList_mem : ∀ {xs : List Val}, wfList xs = true → ∀ x ∈ xs, wfVal x = true
  | [], _, x, hx => by simp at hx
  | y :: ys, h, x, hx => by
    simp only [wfList, Bool.and_eq_true] at h
    rcases List.mem_cons.mp hx with rfl | hx
    · exact h.1
    · exact wfList_mem h.2 x hx

theorem wfList_of_mem : ∀ {xs : List Val}, (∀ x ∈ xs, wfVal x = true) → wfList xs = true
  | [], _ => rfl
  | y :: ys, h => by
    simp only [wfList, Bool.and_eq_true]
    exact ⟨h y (by simp), wfList_of_mem fun x hx => h x (by simp [hx])⟩

theorem wfFields_mem : ∀ {xs : List (String × Val)}, wfFields xs = true → ∀ p ∈ xs, wfVal p.2 = true
  | [], _, x, hx => by simp at hx
  | (k, y) :: ys, h, x, hx => by
    simp only [wfFields, Bool.and_eq_true] at h
    rcases List.mem_cons.mp hx with rfl | hx
    · exact h.1
    · exact wfFields_mem h.2 x hx

theorem wfFields_of_mem : ∀ {xs : List (String × Val)}, (∀ p ∈ xs, wfVal p.2 = true) → wfFields xs = true
  | [], _ => rfl
  | (k, y) :: ys, h => by
    simp only [wfFields, Bool.and_eq_true]
    exact ⟨h (k, y) (by simp), wfFields_of_mem fun x hx => h x (by simp [hx])⟩

theorem wfFields_lookup {xs : List (String × Val)} (h : wfFields xs = true) {k : String} {x : Val}
    (hx : lookupKey k xs = some x) : wfVal x = true :=
  wfFields_mem h (k, x) (mem_of_lookupKey hx)

mutual
theorem wfVal_unmarkDeep : ∀ v : Val, wfVal (unmarkDeep v) = wfVal v
  | .unk _ _ | .null _ _ | .str _ _ | .num _ _ | .bool _ _ => by simp [unmarkDeep, wfVal, setFl]
  | .list _ t xs => by simp [unmarkDeep, wfVal, wfElems_unmarkDeep t xs]
  | .tuple _ xs => by simp [unmarkDeep, wfVal, wfList_unmarkDeep xs]
  | .map _ t xs => by simp [unmarkDeep, wfVal, wfElemsF_unmarkDeep t xs]
  | .object _ xs => by simp [unmarkDeep, wfVal, wfFields_unmarkDeep xs]
theorem wfElems_unmarkDeep : ∀ (t : Ty) (xs : List Val), wfElems t (unmarkDeepList xs) = wfElems t xs
  | _, [] => rfl
  | t, x :: xs => by
    simp [unmarkDeepList, wfElems, typeOf_unmarkDeep x, wfVal_unmarkDeep x, wfElems_unmarkDeep t xs]
theorem wfElemsF_unmarkDeep : ∀ (t : Ty) (xs : List (String × Val)),
    wfElemsF t (unmarkDeepFields xs) = wfElemsF t xs
  | _, [] => rfl
  | t, (k, x) :: xs => by
    simp [unmarkDeepFields, wfElemsF, typeOf_unmarkDeep x, wfVal_unmarkDeep x, wfElemsF_unmarkDeep t xs]
theorem wfList_unmarkDeep : ∀ (xs : List Val), wfList (unmarkDeepList xs) = wfList xs
  | [] => rfl
  | x :: xs => by simp [unmarkDeepList, wfList, wfVal_unmarkDeep x, wfList_unmarkDeep xs]
theorem wfFields_unmarkDeep : ∀ (xs : List (String × Val)), wfFields (unmarkDeepFields xs) = wfFields xs
  | [] => rfl
  | (k, x) :: xs => by simp [unmarkDeepFields, wfFields, wfVal_unmarkDeep x, wfFields_unmarkDeep xs]
end

end HclModel.Proofs.Unk
