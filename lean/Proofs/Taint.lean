import Proofs.TaintSound
import HclModel.Expr.Codec
/-!
C19 at top level, where the scope exposes no taint at all: `taint_value`, `taint_partial`; the syntactic condition
`simple` implies both side conditions (`clean_of_simple`); which function libraries satisfy `TaintFuncs`.
-/
namespace HclModel.Proofs
open Val

/-- No diagnostic echoes tainted content: side condition `fclean [] e`, any configuration (the Go one and
    the repaired ones alike). -/
theorem taint_partial (C : Cx) (hF : TaintFuncs C.funcs) (e : Expr) (ρ : Env) (hρ : twEnv ρ)
    (he : fclean [] e = true) : fragsClean (eval C ρ e).2 :=
  (sound C hF e [] ρ (envOK_of_twEnv hρ [])).2 he

/-- The value of an expression exposes no taint. -/
theorem taint_value (C : Cx) (hF : TaintFuncs C.funcs) (e : Expr) (ρ : Env) (hρ : twEnv ρ)
    (he : vclean [] e = true) : tw false (eval C ρ e).1 = true :=
  (sound C hF e [] ρ (envOK_of_twEnv hρ [])).1 he

theorem twEnv_of_exactEnv {ρ : Env} (h : exactEnv ρ) : twEnv ρ := fun p hp => (h p hp).2

theorem taintFuncs_empty : TaintFuncs (fun _ => none) := by
  intro fn spec h; cases h

/-- implementations that return values without flags (as go-cty's do: `function.Call` re-applies the marks
    afterwards) satisfy the assumption -/
theorem taintFuncs_of_flagFree (F : Funcs)
    (h : ∀ fn spec, F fn = some spec → ∀ args r, spec.impl args = .ok r → untainted r = true) : TaintFuncs F := by
  intro fn spec hs args r _ hr
  have := h fn spec hs args r hr
  unfold untainted at this
  exact tw_of_untainted r false (by simpa using this)

theorem tw_of_flagFree {v : Val} (h : flagFree v = true) : tw false v = true := by
  unfold flagFree at h
  simp only [Bool.and_eq_true, Bool.not_eq_true'] at h
  exact tw_of_untainted v false h.1

theorem dropIter_nil (kv vv : String) : dropIter kv vv [] = [] := rfl

/-- the condition on the key of a non-grouping object `for`: inside a loop body (`b`) there is none; at top
    level (`L = []`) collection and key are clean -/
theorem simple_key {g b : Bool} {L : List String} {kv vv : String} {coll key : Expr} (hb : b = true ∨ L = [])
    (hg : g = true ∨ b = false) (hc : vclean [] coll = true) (hk : vclean [] key = true) :
    (g = true ∨ vclean (iterNames kv vv ++ L) key = true) ∨
      (vclean L coll = true ∧ vclean (dropIter kv vv L) key = true) := by
  rcases hg with hg | hb'
  · exact Or.inl (Or.inl hg)
  · obtain rfl : L = [] := hb.resolve_left (by simp [hb'])
    exact Or.inr ⟨hc, hk⟩

mutual
/-- Inside a loop body (`b`) there is no non-grouping object `for` at all, so nothing can be echoed whatever the
    scope; at top level the scope is empty. -/
theorem clean_of_simple : ∀ (e : Expr) (b : Bool), simple b e = true →
    vclean [] e = true ∧ ∀ (L : List String), b = true ∨ L = [] → fclean L e = true
  | .lit v, b, h => by
    simp only [simple] at h
    simp only [vclean, fclean]
    exact ⟨tw_of_flagFree h, fun _ _ => trivial⟩
  | .var x, b, h => by simp [vclean, fclean]
  | .getAttr e _, b, h => by
    simp only [simple] at h
    simp only [vclean, fclean]
    exact clean_of_simple e b h
  | .index e k, b, h => by
    simp only [simple, Bool.and_eq_true] at h
    have ihe := clean_of_simple e b h.1
    have ihk := clean_of_simple k b h.2
    simp only [vclean, fclean, Bool.and_eq_true]
    exact ⟨⟨ihe.1, ihk.1⟩, fun L hb => ⟨ihe.2 L hb, ihk.2 L hb⟩⟩
  | .bin _ l r, b, h => by
    simp only [simple, Bool.and_eq_true] at h
    have ihl := clean_of_simple l b h.1
    have ihr := clean_of_simple r b h.2
    simp only [vclean, fclean, Bool.and_eq_true]
    exact ⟨⟨ihl.1, ihr.1⟩, fun L hb => ⟨ihl.2 L hb, ihr.2 L hb⟩⟩
  | .un _ e, b, h => by
    simp only [simple] at h
    simp only [vclean, fclean]
    exact clean_of_simple e b h
  | .cond c t f, b, h => by
    simp only [simple, Bool.and_eq_true] at h
    have ihc := clean_of_simple c b h.1.1
    have iht := clean_of_simple t b h.1.2
    have ihf := clean_of_simple f b h.2
    simp only [vclean, fclean, Bool.and_eq_true]
    exact ⟨⟨⟨ihc.1, iht.1⟩, ihf.1⟩, fun L hb => ⟨⟨ihc.2 L hb, iht.2 L hb⟩, ihf.2 L hb⟩⟩
  | .tuple es, b, h => by
    simp only [simple] at h
    simp only [vclean, fclean]
    exact cleanList_of_simple es b h
  | .object items, b, h => by
    simp only [simple] at h
    simp only [vclean, fclean]
    exact cleanItems_of_simple items b h
  | .forTuple kv vv coll val none, b, h => by
    simp only [simple, Bool.and_eq_true, Bool.and_true] at h
    have ihc := clean_of_simple coll b h.1
    have ihv := clean_of_simple val true h.2
    simp only [vclean, fclean, Bool.and_eq_true, Bool.and_true, dropIter_nil]
    exact ⟨⟨ihc.1, ihv.1⟩, fun L hb => ⟨ihc.2 L hb, ihv.2 _ (.inl rfl)⟩⟩
  | .forTuple kv vv coll val (some ce), b, h => by
    simp only [simple, Bool.and_eq_true] at h
    have ihc := clean_of_simple coll b h.1.1
    have ihv := clean_of_simple val true h.1.2
    have ihce := clean_of_simple ce true h.2
    simp only [vclean, fclean, Bool.and_eq_true, dropIter_nil]
    exact ⟨⟨⟨ihc.1, ihv.1⟩, ihce.1⟩, fun L hb => ⟨⟨ihc.2 L hb, ihv.2 _ (.inl rfl)⟩, ihce.2 _ (.inl rfl)⟩⟩
  | .forObject kv vv coll key val none g, b, h => by
    simp only [simple, Bool.and_eq_true, Bool.and_true, Bool.or_eq_true, Bool.not_eq_true'] at h
    have ihc := clean_of_simple coll b h.1.1.2
    have ihk := clean_of_simple key true h.1.2
    have ihv := clean_of_simple val true h.2
    simp only [vclean, fclean, Bool.and_eq_true, Bool.and_true, Bool.or_eq_true, dropIter_nil]
    exact ⟨⟨⟨ihc.1, ihk.1⟩, ihv.1⟩, fun L hb =>
      ⟨⟨⟨ihc.2 L hb, ihk.2 _ (.inl rfl)⟩, ihv.2 _ (.inl rfl)⟩, simple_key hb h.1.1.1 ihc.1 ihk.1⟩⟩
  | .forObject kv vv coll key val (some ce) g, b, h => by
    simp only [simple, Bool.and_eq_true, Bool.or_eq_true, Bool.not_eq_true'] at h
    have ihc := clean_of_simple coll b h.1.1.1.2
    have ihk := clean_of_simple key true h.1.1.2
    have ihv := clean_of_simple val true h.1.2
    have ihce := clean_of_simple ce true h.2
    simp only [vclean, fclean, Bool.and_eq_true, Bool.or_eq_true, dropIter_nil]
    exact ⟨⟨⟨⟨ihc.1, ihk.1⟩, ihv.1⟩, ihce.1⟩, fun L hb =>
      ⟨⟨⟨⟨ihc.2 L hb, ihk.2 _ (.inl rfl)⟩, ihv.2 _ (.inl rfl)⟩, ihce.2 _ (.inl rfl)⟩,
        simple_key hb h.1.1.1.1 ihc.1 ihk.1⟩⟩
  | .splat anon src each, b, h => by
    simp only [simple, Bool.and_eq_true] at h
    have ihs := clean_of_simple src b h.1
    have ihe := clean_of_simple each true h.2
    simp only [vclean, fclean, Bool.and_eq_true, List.filter_nil]
    exact ⟨⟨ihs.1, ihe.1⟩, fun L hb => ⟨ihs.2 L hb, ihe.2 _ (.inl rfl)⟩⟩
  | .template parts, b, h => by
    simp only [simple] at h
    simp only [vclean, fclean]
    exact cleanList_of_simple parts b h
  | .tjoin t, b, h => by
    simp only [simple] at h
    simp only [vclean, fclean]
    exact clean_of_simple t b h
  | .call _ args none, b, h => by
    simp only [simple, Bool.and_true] at h
    simp only [vclean, fclean, Bool.and_true]
    exact cleanList_of_simple args b h
  | .call _ args (some ex), b, h => by
    simp only [simple, Bool.and_eq_true] at h
    have iha := cleanList_of_simple args b h.1
    have ihx := clean_of_simple ex b h.2
    simp only [vclean, fclean, Bool.and_eq_true]
    exact ⟨⟨iha.1, ihx.1⟩, fun L hb => ⟨iha.2 L hb, ihx.2 L hb⟩⟩
theorem cleanList_of_simple : ∀ (es : List Expr) (b : Bool), simpleList b es = true →
    vcleanList [] es = true ∧ ∀ (L : List String), b = true ∨ L = [] → fcleanList L es = true
  | [], _, _ => by simp [vcleanList, fcleanList]
  | e :: es, b, h => by
    simp only [simpleList, Bool.and_eq_true] at h
    have ihe := clean_of_simple e b h.1
    have ihs := cleanList_of_simple es b h.2
    simp only [vcleanList, fcleanList, Bool.and_eq_true]
    exact ⟨⟨ihe.1, ihs.1⟩, fun L hb => ⟨ihe.2 L hb, ihs.2 L hb⟩⟩
theorem cleanItems_of_simple : ∀ (items : List (Expr × Expr)) (b : Bool), simpleItems b items = true →
    vcleanItems [] items = true ∧ ∀ (L : List String), b = true ∨ L = [] → fcleanItems L items = true
  | [], _, _ => by simp [vcleanItems, fcleanItems]
  | (k, v) :: rest, b, h => by
    simp only [simpleItems, Bool.and_eq_true] at h
    have ihk := clean_of_simple k b h.1.1
    have ihv := clean_of_simple v b h.1.2
    have ihr := cleanItems_of_simple rest b h.2
    simp only [vcleanItems, fcleanItems, Bool.and_eq_true]
    exact ⟨⟨⟨ihk.1, ihv.1⟩, ihr.1⟩, fun L hb => ⟨⟨ihk.2 L hb, ihv.2 L hb⟩, ihr.2 L hb⟩⟩
end

theorem vcleanList_of_simple : ∀ (es : List Expr) (b : Bool), simpleList b es = true → vcleanList [] es = true :=
  fun es b h => (cleanList_of_simple es b h).1
theorem vcleanItems_of_simple : ∀ (items : List (Expr × Expr)) (b : Bool), simpleItems b items = true →
    vcleanItems [] items = true :=
  fun items b h => (cleanItems_of_simple items b h).1
theorem fcleanList_of_simple_body : ∀ (es : List Expr) (L : List String), simpleList true es = true →
    fcleanList L es = true :=
  fun es L h => (cleanList_of_simple es true h).2 L (.inl rfl)
theorem fcleanItems_of_simple_body : ∀ (items : List (Expr × Expr)) (L : List String),
    simpleItems true items = true → fcleanItems L items = true :=
  fun items L h => (cleanItems_of_simple items true h).2 L (.inl rfl)
theorem fcleanList_of_simple : ∀ (es : List Expr), simpleList false es = true → fcleanList [] es = true :=
  fun es h => (cleanList_of_simple es false h).2 [] (.inr rfl)
theorem fcleanItems_of_simple : ∀ (items : List (Expr × Expr)), simpleItems false items = true →
    fcleanItems [] items = true :=
  fun items h => (cleanItems_of_simple items false h).2 [] (.inr rfl)

/-- `simple` implies the side condition of `taint_partial` (`clean_of_simple`). -/
theorem taint_simple (C : Cx) (hF : TaintFuncs C.funcs) (e : Expr) (ρ : Env) (hρ : twEnv ρ)
    (he : simple false e = true) : fragsClean (eval C ρ e).2 :=
  taint_partial C hF e ρ hρ ((clean_of_simple e false he).2 [] (.inr rfl))

/-- the function library of the wire protocol (`stdFuncs`, the same definitions on the Go side) returns values
    without flags -/
theorem taintFuncs_std : TaintFuncs stdFuncs := by
  apply taintFuncs_of_flagFree
  intro fn spec hs args r hr
  unfold stdFuncs at hs
  split at hs <;> cases hs
  · simp only [fnAdd3, pure, Except.pure, throw, throwThe, MonadExceptOf.throw] at hr
    split at hr <;> cases hr
    rfl
  · simp only [fnCat, pure, Except.pure, throw, throwThe, MonadExceptOf.throw] at hr
    split at hr <;> cases hr
    rfl
  · simp only [fnCat2, pure, Except.pure, throw, throwThe, MonadExceptOf.throw] at hr
    split at hr <;> cases hr
    rfl
  · simp only [fnSumList, pure, Except.pure, throw, throwThe, MonadExceptOf.throw] at hr
    split at hr
    · split at hr <;> cases hr
      rfl
    · cases hr

end HclModel.Proofs
