import Proofs.MarksBin
/-!
C06: the conditional (`evalCond`).
-/
namespace HclModel.Proofs
open Val

theorem evalCondCore_marked (cv tv fv : Val) (cd td fd : List Diag)
    (hm : ((cv.fl.join tv.fl).join fv.fl).m = true)
    (h : (evalCondCore (cv, cd) (tv, td) (fv, fd)).2 = []) :
    (evalCondCore (cv, cd) (tv, td) (fv, fd)).1.fl.m = true := by
  obtain ⟨-, -, rty, w, -, e, -⟩ := evalCondCore_nil h
  rw [e]
  show (w.withFl _).fl.m = true
  rw [fl_withFl, join_m, hm, Bool.or_true]

theorem relC_condView {a a' : Val} (h : relC a a' = true) : condView a = condView a' := by
  cases relC_view h with
  | list _ _ _ hl => simp only [condView, relL_length hl]
  | map _ _ _ hl => simp only [condView, relF_length hl]
  | _ => rfl

theorem evalCond_rel (co co' to to' fo fo' : Out) (hc : relV co.1 co'.1 = true) (ht : relV to.1 to'.1 = true)
    (hf : relV fo.1 fo'.1 = true)
    (hsite : bm co.1 co'.1 ∨ bm to.1 to'.1 ∨ bm fo.1 fo'.1 ∨ unifyCond to.1 fo.1 = unifyCond to'.1 fo'.1)
    (h1 : (evalCond true co to fo).2 = []) (h2 : (evalCond true co' to' fo').2 = []) :
    relV (evalCond true co to fo).1 (evalCond true co' to' fo').1 = true := by
  obtain ⟨k1, -, -, e1⟩ := evalCond_nil h1
  obtain ⟨k2, -, -, e2⟩ := evalCond_nil h2
  rw [e1, e2]
  obtain ⟨cv, cd⟩ := co
  obtain ⟨tv, td⟩ := to
  obtain ⟨fv, fd⟩ := fo
  obtain ⟨cv', cd'⟩ := co'
  obtain ⟨tv', td'⟩ := to'
  obtain ⟨fv', fd'⟩ := fo'
  simp only [] at hc ht hf hsite
  have mk : (bm cv cv' ∨ bm tv tv' ∨ bm fv fv') →
      relV (evalCondCore (cv, cd) (tv, td) (fv, fd)).1 (evalCondCore (cv', cd') (tv', td') (fv', fd')).1 = true := by
    intro hb
    apply relV_top
    · apply evalCondCore_marked _ _ _ _ _ _ _ k1
      rcases hb with hb | hb | hb <;> simp [hb.1]
    · apply evalCondCore_marked _ _ _ _ _ _ _ k2
      rcases hb with hb | hb | hb <;> simp [hb.2]
  rcases relV_cases hc with hb | rc
  · exact mk (Or.inl hb)
  rcases relV_cases ht with hb | rt
  · exact mk (Or.inr (Or.inl hb))
  rcases relV_cases hf with hb | rf
  · exact mk (Or.inr (Or.inr hb))
  rcases hsite with hb | hb | hb | hu
  · exact mk (Or.inl hb)
  · exact mk (Or.inr (Or.inl hb))
  · exact mk (Or.inr (Or.inr hb))
  obtain ⟨-, -, rty, w, u1, e1, c1⟩ := evalCondCore_nil k1
  obtain ⟨-, -, rty', w', u2, e2, c2⟩ := evalCondCore_nil k2
  rw [e1, e2]
  apply relV_withFl
  obtain rfl : rty' = rty := by rw [← hu, u1] at u2; cases u2; rfl
  have hk := relC_isKnown rc
  have rc' : relC cv.unmark.1 cv'.unmark.1 = true := by simpa using rc
  have rt' : relC tv.unmark.1 tv'.unmark.1 = true := by simpa using rt
  have rf' : relC fv.unmark.1 fv'.unmark.1 = true := by simpa using rf
  rcases c1 with ⟨k, hw⟩ | ⟨k, f, b, hcb, -, hw⟩ <;> rcases c2 with ⟨k', hw'⟩ | ⟨k', f', b', hcb', -, hw'⟩
  · rw [condUnknownVal_view, relC_condView rt', relC_condView rf', ← condUnknownVal_view, hw'] at hw
    cases hw; exact relV_refl _
  · rw [hk, k'] at k; cases k
  · rw [hk, k'] at k; cases k
  · -- the converted conditions are unmarked, hence related in content: the same branch is taken
    have rcb : relC (.bool f b) (.bool f' b') = true := by
      rcases relV_cases (tryConvert_rel (relV_of_relC rc') hcb hcb') with ⟨m, -⟩ | r
      · rw [tryConvert_fl hcb] at m; simp at m
      · exact r
    cases relC_view rcb
    refine tryConvert_rel (relV_of_relC ?_) hw hw'
    cases b
    · exact rf'
    · exact rt'
end HclModel.Proofs
