import Proofs.JBodyContent
/-!
C03, main theorem: consuming the JSON rendering of an admissible layout level by level gives what consuming
the native body of the configuration denoted gives.
-/
namespace HclModel.JBody.Proofs
open HclModel HclModel.Body HclModel.Body.Proofs

theorem native_fresh (st : STree) (L : BodyL) (hL : admBody st L = true) :
    (denoteBody L).native.hiddenAttrs = [] ∧ (denoteBody L).native.hiddenBlocks = [] ∧
      ((denoteBody L).native.attrs.map (·.1)).Nodup :=
  ⟨rfl, rfl, by rw [native_attrs]; exact adm_nodup st L hL⟩

/-- a block the native schema processing returns -/
def ngood (s : Schema) (blk : Block CBlock) : Bool :=
  match wanted s blk.type with
  | some bs => blk.labels.length == bs.labelCount
  | none => false

theorem native_content_blocks (st : STree) (L : BodyL) (hst : st.wf = true) (hL : admBody st L = true) :
    ((denoteBody L).native.content st.schema).1.blocks =
      ((flatBlocks (bodyProps L)).map toN).filter (ngood st.schema) := by
  have h := (Body.Proofs.content_exact (denoteBody L).native st.schema (native_fresh st L hL) (wf_nodup hst)).2
  rwa [native_blocks] at h

theorem lookupAttr_eq_findAttr {α : Type} (n : String) (l : List (String × α)) :
    lookupAttr n l = findAttr n l := by
  induction l with
  | nil => rfl
  | cons p rest ih => obtain ⟨k, v⟩ := p; simp [lookupAttr, findAttr, ih]

/-- under a name the schema has, either processing finds the argument the layout writes under it -/
theorem find_agree (st : STree) (L : BodyL) (hst : st.wf = true) (hL : admBody st L = true)
    {as : AttrSchema} (has : as ∈ st.schema.attrs) :
    lookupAttr as.name ((⟨renderBody L, []⟩ : JBodyV).content st.schema).1.attrs =
        findAttr as.name (denoteAttrs (bodyProps L)) ∧
      lookupAttr as.name ((denoteBody L).native.content st.schema).1.attrs =
        findAttr as.name (denoteAttrs (bodyProps L)) := by
  have hany : st.schema.attrs.any (·.name == as.name) = true := by
    simp only [List.any_eq_true, beq_iff_eq]; exact ⟨as, has, rfl⟩
  constructor
  · rw [content_rendered st L hst hL, lookupAttr_eq_findAttr,
      findAttr_filter (fun n => st.schema.attrs.any (·.name == n)), hany, if_pos rfl]
  · rw [lookupAttr_eq_findAttr, content_fst, partial_find, native_attrs]
    exact if_pos ⟨List.not_mem_nil, as, has, rfl⟩

theorem adm_attr_unique (st : STree) (L : BodyL) (hL : admBody st L = true) {n : String} {v : JV}
    (h : (n, v) ∈ denoteAttrs (bodyProps L)) : uniqueKeys v = true :=
  (((admProps_iff st _).1 (adm_props st L hL) _ (mem_denoteAttrs.1 h)).attr n v rfl).2.2

theorem resolve_agree (ev : Expr → Val × Bool) (hev : ∀ v, uniqueKeys v = true → ev (litExpr v) = jsonValue v) :
    ∀ (n : Nat) (st : STree) (L : BodyL), st.wf = true → admBody st L = true →
      resolveJ n st ⟨renderBody L, []⟩ = resolveN ev n st (denoteBody L) := by
  intro n
  induction n with
  | zero => intro st L _ _; simp [resolveJ, resolveN]
  | succ fuel ih =>
    intro st L hst hL
    simp only [resolveJ, resolveN, RTree.mk.injEq]
    constructor
    · apply List.map_congr_left
      intro as has
      rw [(find_agree st L hst hL has).1, (find_agree st L hst hL has).2]
      cases hf : findAttr as.name (denoteAttrs (bodyProps L)) with
      | none => rfl
      | some v => rw [Option.map_some, Option.map_some, hev v (adm_attr_unique st L hL (findAttr_mem hf))]
    · rw [content_rendered st L hst hL, native_content_blocks st L hst hL]
      apply List.map_congr_left
      intro bs _
      simp only [Prod.mk.injEq, true_and]
      conv => lhs; rw [List.filterMap_filter, List.filterMap_map, List.filterMap_filter]
      conv => rhs; rw [List.filter_filter, List.filterMap_filter, List.filterMap_map]
      apply filterMap_congr'
      intro fb hfb
      cases hw : wanted st.schema fb.1 with
      | none => simp [toN, ngood, hw]
      | some bs' =>
        obtain ⟨cst, hc, hcwf, hlen, hadm⟩ := adm_flatBlocks hst (adm_props st L hL) hfb hw
        have := ih cst fb.2.2 hcwf hadm
        simp [toJ, toN, toC, ngood, hw, hlen, hc, this, CBlock.body]

end HclModel.JBody.Proofs
