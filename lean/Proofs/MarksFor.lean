import Proofs.MarksTmpl
/-!
C06: `for` expressions.  The loop is a `foldl` over a state `ForSt`; its body is a test (of the condition,
of the key) followed by the body proper (`gate`, `gated` in `Proofs/EvalStepLemmas.lean`).  Here the states of
two runs are compared: `FInv`.  What comes before and after the loop is said for one run by `forOut_ready` and
`forOut_eq`.
-/
namespace HclModel.Proofs
open Val

/-- two results are related if both are error-free -/
def RelOut (o o' : Out) : Prop := o.2 = [] → o'.2 = [] → relV o.1 o'.1 = true

def relEl (p p' : Val × Val) : Prop := relV p.1 p'.1 = true ∧ relV p.2 p'.2 = true

theorem idxFrom_rel (kf kf' : Fl) : ∀ (xs ys : List Val) (n : Nat), relL xs ys = true →
    All2 relEl (idxFrom kf n xs) (idxFrom kf' n ys)
  | [], [], _, _ => .nil
  | [], _ :: _, _, h => by simp [relL] at h
  | _ :: _, [], _, h => by simp [relL] at h
  | x :: xs, y :: ys, n, h => by
    simp only [relL, Bool.and_eq_true] at h
    exact .cons ⟨by simp [relV], h.1⟩ (idxFrom_rel kf kf' xs ys (n + 1) h.2)

theorem keyed_rel (kf kf' : Fl) : ∀ (xs ys : List (String × Val)), relF xs ys = true →
    All2 relEl (keyed kf xs) (keyed kf' ys)
  | [], [], _ => .nil
  | [], _ :: _, h => by simp [relF] at h
  | _ :: _, [], h => by simp [relF] at h
  | (k, x) :: xs, (l, y) :: ys, h => by
    simp only [relF, Bool.and_eq_true, beq_iff_eq] at h
    exact .cons ⟨by simp [relV, h.1.1], h.1.2⟩ (keyed_rel kf kf' xs ys h.2)

theorem elements_rel {v v' : Val} (h : relC v v' = true) :
    (elements v = none ∧ elements v' = none) ∨
      ∃ els els', elements v = some els ∧ elements v' = some els' ∧ All2 relEl els els' := by
  rw [elements_eq, elements_eq]
  cases relC_view h with
  | list _ _ _ hl | tuple _ _ hl => exact .inr ⟨_, _, rfl, rfl, idxFrom_rel _ _ _ _ _ hl⟩
  | map _ _ _ hl | object _ _ hl => exact .inr ⟨_, _, rfl, rfl, keyed_rel _ _ _ _ hl⟩
  | _ => exact .inl ⟨rfl, rfl⟩

/-- the grouped key/value lists of the two runs -/
def relKvs (a b : List (String × List Val)) : Prop := All2 (fun p p' => p.1 = p'.1 ∧ relL p.2 p'.2 = true) a b

/-- the results of the two runs are related whatever the remaining iterations add to the states: marked in
    both, or unknown in both (neither is undone, `StLe`) -/
def Settled (st st' : ForSt) : Prop :=
  (st.marks.m = true ∧ st'.marks.m = true) ∨ (st.known = false ∧ st'.known = false)

structure Live (st st' : ForSt) : Prop where
  known : st.known = true
  known' : st'.known = true
  vals : relL st.vals st'.vals = true
  kvs : relKvs st.kvs st'.kvs

/-- the invariant of the loop, for as long as neither run has reported a diagnostic -/
def FInv (st st' : ForSt) : Prop := Settled st st' ∨ Live st st'

theorem Settled.le {st st' t t' : ForSt} (h : Settled st st') (hl : StLe st t) (hl' : StLe st' t') : Settled t t' :=
  h.imp (fun h => ⟨hl.marks h.1, hl'.marks h.2⟩) (fun h => ⟨hl.known h.1, hl'.known h.2⟩)

theorem FInv.step {st st' t t' : ForSt} (hi : FInv st st') (hl : StLe st t) (hl' : StLe st' t')
    (h : Live st st' → FInv t t') : FInv t t' :=
  hi.elim (fun hd => .inl (hd.le hl hl')) h

/-- the tests of the two runs came out alike: the states are settled, or live with the same verdict -/
def GateRel {α : Type} (S : α → α → Prop) (g g' : ForSt × Option α) : Prop :=
  Settled g.1 g'.1 ∨ (Live g.1 g'.1 ∧ ((g.2 = none ∧ g'.2 = none) ∨ ∃ a a', g.2 = some a ∧ g'.2 = some a' ∧ S a a'))

section
variable {α : Type} {nullMsg errMsg : String} {ty : Ty} {early : Bool} {verdict : Val → Option (Option α)}

/-- the verdicts on related converted values -/
def VerdictRel (S : α → α → Prop) : Option (Option α) → Option (Option α) → Prop
  | none, none => True
  | some none, some none => True
  | some (some a), some (some a') => S a a'
  | _, _ => False

theorem gate_rel {S : α → α → Prop} (hver : ∀ b b', relC b b' = true → VerdictRel S (verdict b) (verdict b'))
    {o o' : Out} {st st' : ForSt} (hl : Live st st') (hrel : relV o.1 o'.1 = true)
    (h1 : (gate nullMsg errMsg ty early verdict o st).1.diags = [])
    (h2 : (gate nullMsg errMsg ty early verdict o' st').1.diags = []) :
    GateRel S (gate nullMsg errMsg ty early verdict o st) (gate nullMsg errMsg ty early verdict o' st') := by
  obtain ⟨hk, hk', hv, hkv⟩ := hl
  cases hn : o.1.isNull
  · cases hn' : o'.1.isNull
    · by_cases hb : bm o.1 o'.1
      · exact .inl (.inl ⟨(gate_le_notNull st hn).marks (by simp [hb.1]), (gate_le_notNull st' hn').marks (by simp [hb.2])⟩)
      · -- not marked in both: the two operands have the same shape, the two tests take the same way
        have rc := relC_of_not_bm hrel hb
        unfold gate failSt at h1 h2 ⊢
        simp only [hk, hk', hn, hn', if_true, Bool.false_eq_true, if_false] at h1 h2 ⊢
        rw [← relC_isKnown rc] at h2 ⊢
        cases he : (early && !o.1.isKnown)
        · simp only [he, Bool.false_eq_true, if_false] at h1 h2 ⊢
          cases c1 : tryConvert o.1 ty with
          | error d => simp [c1] at h1
          | ok cb =>
            cases c2 : tryConvert o'.1 ty with
            | error d => simp [c2] at h2
            | ok cb' =>
              have rc2 := tryConvert_relC hrel hb c1 c2
              have hvr := hver _ _ rc2
              simp only []
              rw [← relC_isKnown rc2]
              cases cb.isKnown
              · exact .inl (.inr ⟨rfl, rfl⟩)
              · simp only [Bool.not_true, Bool.false_eq_true, if_false]
                cases hv1 : verdict cb with
                | none =>
                  cases hv2 : verdict cb' with
                  | none => exact .inl (.inr ⟨rfl, rfl⟩)
                  | some r' => simp [hv1, hv2, VerdictRel] at hvr
                | some r =>
                  cases hv2 : verdict cb' with
                  | none => cases r <;> simp [hv1, hv2, VerdictRel] at hvr
                  | some r' =>
                    rw [hv1, hv2] at hvr
                    refine .inr ⟨⟨rfl, rfl, hv, hkv⟩, ?_⟩
                    cases r <;> cases r' <;> simp only [VerdictRel] at hvr
                    · exact .inl ⟨rfl, rfl⟩
                    · exact .inr ⟨_, _, rfl, rfl, hvr⟩
        · simp only [if_true]
          exact .inl (.inr ⟨rfl, rfl⟩)
    · simp [gate, failSt, hn', hk'] at h2
  · simp [gate, failSt, hn, hk] at h1

theorem gate_inv {S : α → α → Prop} (hver : ∀ b b', relC b b' = true → VerdictRel S (verdict b) (verdict b'))
    {body body' : α → ForSt → ForSt} (hle : ∀ a st, StLe st (body a st)) (hle' : ∀ a st, StLe st (body' a st))
    {o o' : Out} {st st' : ForSt} (hrel : RelOut o o') (hl : Live st st')
    (hbody : ∀ a a', S a a' → ∀ st st', Live st st' → (body a st).diags = [] → (body' a' st').diags = [] →
      FInv (body a st) (body' a' st'))
    (h1 : (gated (gate nullMsg errMsg ty early verdict o st) body).diags = [])
    (h2 : (gated (gate nullMsg errMsg ty early verdict o' st') body').diags = []) :
    FInv (gated (gate nullMsg errMsg ty early verdict o st) body)
      (gated (gate nullMsg errMsg ty early verdict o' st') body') := by
  have le1 := gated_le (gate nullMsg errMsg ty early verdict o st) hle
  have le2 := gated_le (gate nullMsg errMsg ty early verdict o' st') hle'
  rcases gate_rel hver hl (hrel (gate_operand_nil (gate_le _ _) le1 h1) (gate_operand_nil (gate_le _ _) le2 h2))
    (le1.diags h1) (le2.diags h2) with hd | ⟨hl, ⟨e, e'⟩ | ⟨a, a', e, e', hs⟩⟩
  · exact .inl (hd.le le1 le2)
  · simp only [gated, e, e']; exact .inr hl
  · simp only [gated, e, e'] at h1 h2 ⊢; exact hbody a a' hs _ _ hl h1 h2
end

theorem condVerdict_rel (b b' : Val) (h : relC b b' = true) :
    VerdictRel (fun _ _ => True) (condVerdict b) (condVerdict b') := by
  cases relC_view h with
  | bool _ _ x => cases x <;> trivial
  | _ => trivial

theorem forOut_rel {co co' : Out} {probe probe' : Option Out} {stepf stepf' : ForSt → Val × Val → ForSt}
    {fin : ForSt → Out} (hr : relV co.1 co'.1 = true) (hs : shapeEq co.1 co'.1)
    (hfd : ∀ st, (fin st).2 = st.diags)
    (hle : ∀ st kv, StLe st (stepf st kv)) (hle' : ∀ st kv, StLe st (stepf' st kv))
    (hfinm : ∀ st, st.marks.m = true → (fin st).1.fl.m = true)
    (hfinrel : ∀ st st', FInv st st' → relV (fin st).1 (fin st').1 = true)
    (hstep : ¬ bm co.1 co'.1 → ∀ els els', elements co.1.unmark.1 = some els → elements co'.1.unmark.1 = some els' →
      ∀ p ∈ els.zip els', relEl p.1 p.2 → ∀ st st', Live st st' →
        (stepf st p.1).diags = [] → (stepf' st' p.2).diags = [] → FInv (stepf st p.1) (stepf' st' p.2))
    (h1 : (forOut co probe stepf fin).2 = []) (h2 : (forOut co' probe' stepf' fin).2 = []) :
    relV (forOut co probe stepf fin).1 (forOut co' probe' stepf' fin).1 = true := by
  have e1 := forOut_eq (forOut_ready hfd hle h1) stepf fin
  have e2 := forOut_eq (forOut_ready hfd hle' h2) stepf' fin
  rw [e1] at h1 ⊢
  rw [e2, ← hs.2] at h2 ⊢
  cases hd : (co.1.typeOf == Ty.dyn)
  · simp only [hd, Bool.false_eq_true, if_false] at h1 h2 ⊢
    by_cases hb : bm co.1 co'.1
    · apply relV_top
      · split
        · simp [hb.1]
        · exact hfinm _ ((forFold_le hle _ _).marks hb.1)
      · split
        · simp [hb.2]
        · exact hfinm _ ((forFold_le hle' _ _).marks hb.2)
    · have rc : relC co.1.unmark.1 co'.1.unmark.1 = true := by simpa using relC_of_not_bm hr hb
      rcases elements_rel rc with ⟨n1, n2⟩ | ⟨els, els', s1, s2, ha⟩
      · simp only [n1, n2]; simp [relV, dynVal, withFl, setFl]
      · simp only [s1, s2] at h1 h2 ⊢
        rw [hfd] at h1 h2
        -- the invariant of the fold: states that are still error-free are related
        refine hfinrel _ _ (All2.foldl (I := fun st st' => st.diags = [] → st'.diags = [] → FInv st st')
          (ha.of_zip (Q := fun p p' => ∀ st st', Live st st' → (stepf st p).diags = [] →
            (stepf' st' p').diags = [] → FInv (stepf st p) (stepf' st' p')) (hstep hb els els' s1 s2)) ?_ _ _
          (fun _ _ => .inr ⟨rfl, rfl, rfl, .nil⟩) h1 h2)
        intro p p' hp st st' hi d1 d2
        exact (hi ((hle st p).diags d1) ((hle' st' p').diags d2)).step (hle st p) (hle' st' p')
          fun hl => hp st st' hl d1 d2
  · simp [relV_refl]

theorem tupStep_inv (ev ev' : Val → Val → Out) (st st' : ForSt) (kv kv' : Val × Val)
    (hev : RelOut (ev kv.1 kv.2) (ev' kv'.1 kv'.2))
    (hl : Live st st') (h1 : (tupStep ev st kv).diags = []) (h2 : (tupStep ev' st' kv').diags = []) :
    FInv (tupStep ev st kv) (tupStep ev' st' kv') := by
  simp only [tupStep, List.append_eq_nil_iff] at h1 h2
  exact .inr ⟨hl.known, hl.known', relL_append hl.vals (by simp [relL, hev h1.2 h2.2]), hl.kvs⟩

/-- the optional condition is `cond.map f` in both runs -/
theorem forTupleStep_inv {γ : Type} (ev ev' : Val → Val → Out) (f f' : γ → Val → Val → Out) (cond : Option γ)
    (st st' : ForSt) (kv kv' : Val × Val)
    (hev : RelOut (ev kv.1 kv.2) (ev' kv'.1 kv'.2))
    (hf : ∀ x, cond = some x → RelOut (f x kv.1 kv.2) (f' x kv'.1 kv'.2))
    (hl : Live st st') (h1 : (forTupleStep ev (cond.map f) st kv).diags = [])
    (h2 : (forTupleStep ev' (cond.map f') st' kv').diags = []) :
    FInv (forTupleStep ev (cond.map f) st kv) (forTupleStep ev' (cond.map f') st' kv') := by
  cases cond with
  | none => exact tupStep_inv ev ev' st st' kv kv' hev hl h1 h2
  | some x =>
    simp only [Option.map_some] at h1 h2 ⊢
    rw [forTupleStep_gate] at h1 h2
    rw [forTupleStep_gate, forTupleStep_gate]
    exact gate_inv condVerdict_rel (fun _ st => tupStep_le ev st kv) (fun _ st => tupStep_le ev' st kv') (hf x rfl) hl
      (fun _ _ _ st st' hl => tupStep_inv ev ev' st st' kv kv' hev hl) h1 h2

theorem forTupleFin_marked (st : ForSt) (h : st.marks.m = true) : (forTupleFin st).1.fl.m = true := by
  unfold forTupleFin; split <;> simp [h]

theorem forTupleFin_rel (st st' : ForSt) (h : FInv st st') : relV (forTupleFin st).1 (forTupleFin st').1 = true := by
  rcases h with (h | h) | h
  · exact relV_top (forTupleFin_marked _ h.1) (forTupleFin_marked _ h.2)
  · simp [forTupleFin, h.1, h.2, relV, dynVal, withFl, setFl]
  · simp [forTupleFin, h.known, h.known', relV, h.vals]

theorem groupInsert_rel (k : String) (v v' : Val) (hv : relV v v' = true) {a b : List (String × List Val)}
    (h : relKvs a b) : relKvs (groupInsert k v a) (groupInsert k v' b) := by
  induction h with
  | nil => exact .cons ⟨rfl, by simp [relL, hv]⟩ .nil
  | @cons p p' as bs hp hr ih =>
    obtain ⟨k1, vs⟩ := p
    obtain ⟨k2, vs'⟩ := p'
    obtain ⟨rfl, hvs⟩ := hp
    simp only [groupInsert]
    split
    · exact .cons ⟨rfl, by simp [relL, hv]⟩ (.cons ⟨rfl, hvs⟩ hr)
    · split
      · exact .cons ⟨rfl, relL_append hvs (by simp [relL, hv])⟩ hr
      · exact .cons ⟨rfl, hvs⟩ ih

theorem lookupKey_relKvs (k : String) {a b : List (String × List Val)} (h : relKvs a b) :
    (lookupKey k a).isSome = (lookupKey k b).isSome := by
  induction h with
  | nil => rfl
  | @cons p p' as bs hp hr ih =>
    obtain ⟨k1, vs⟩ := p
    obtain ⟨k2, vs'⟩ := p'
    obtain ⟨rfl, hvs⟩ := hp
    simp only [lookupKey]
    split
    · rfl
    · exact ih

/-- the result object of the two runs, each group read by `f` -/
theorem relKvs_map (f : List Val → Val) (hf : ∀ vs vs', relL vs vs' = true → relV (f vs) (f vs') = true)
    {a b : List (String × List Val)} (h : relKvs a b) :
    relF (a.map fun (k, vs) => (k, f vs)) (b.map fun (k, vs) => (k, f vs)) = true := by
  induction h with
  | nil => simp [relF]
  | @cons p p' as bs hp hr ih =>
    obtain ⟨k1, vs⟩ := p
    obtain ⟨k2, vs'⟩ := p'
    obtain ⟨rfl, hvs⟩ := hp
    simp only [List.map_cons, relF, Bool.and_eq_true, beq_self_eq_true, true_and]
    exact ⟨hf _ _ hvs, ih⟩

theorem relL_headD {vs vs' : List Val} (h : relL vs vs' = true) :
    relV (vs.headD Val.dynVal) (vs'.headD Val.dynVal) = true := by
  cases vs <;> cases vs' <;> simp [relL] at h
  · simp [relV_refl]
  · simp [h.1]

theorem relKvs_heads {a b : List (String × List Val)} (h : relKvs a b) :
    relF (a.map fun (k, vs) => (k, vs.headD Val.dynVal)) (b.map fun (k, vs) => (k, vs.headD Val.dynVal)) = true :=
  relKvs_map _ (fun _ _ => relL_headD) h

theorem forObjectFin_marked (g : Bool) (st : ForSt) (h : st.marks.m = true) : (forObjectFin g st).1.fl.m = true := by
  unfold forObjectFin; split <;> (try split) <;> simp [h]

theorem forObjectFin_rel (g : Bool) (st st' : ForSt) (h : FInv st st') :
    relV (forObjectFin g st).1 (forObjectFin g st').1 = true := by
  rcases h with (h | h) | h
  · exact relV_top (forObjectFin_marked _ _ h.1) (forObjectFin_marked _ _ h.2)
  · simp [forObjectFin, h.1, h.2, relV, dynVal, withFl, setFl]
  · cases g
    · simp only [forObjectFin, h.known, h.known', Bool.not_true, Bool.false_eq_true, if_false, relV,
        relKvs_heads h.kvs, Bool.or_true]
    · simp only [forObjectFin, h.known, h.known', Bool.not_true, Bool.false_eq_true, if_false, if_true, relV,
        relKvs_map (Val.tuple Fl.none) (fun _ _ h => by simp [relV, h]) h.kvs, Bool.or_true]

theorem keyVerdict_rel (b b' : Val) (h : relC b b' = true) :
    VerdictRel (fun p p' => p.2 = p'.2) (keyVerdict b) (keyVerdict b') := by
  cases relC_view h <;> first | trivial | rfl

theorem objIns_inv (g : Bool) (kf kf' : Fl) (k : String) {vo vo' : Out} {st st' : ForSt}
    (hv : RelOut vo vo') (hl : Live st st')
    (h1 : (objIns g kf k vo st).diags = []) (h2 : (objIns g kf' k vo' st').diags = []) :
    FInv (objIns g kf k vo st) (objIns g kf' k vo' st') := by
  have d1 := (List.append_eq_nil_iff.1 ((objIns_le g kf k vo st).diags h1)).2
  have d2 := (List.append_eq_nil_iff.1 ((objIns_le g kf' k vo' st').diags h2)).2
  have gi := groupInsert_rel k _ _ (hv d1 d2) hl.kvs
  unfold objIns at h1 h2 ⊢
  cases g
  · simp only [Bool.false_eq_true, if_false] at h1 h2 ⊢
    rw [← lookupKey_relKvs k hl.kvs] at h2 ⊢
    cases hlk : (lookupKey k st.kvs).isSome
    · simp only [Bool.false_eq_true, if_false]
      exact .inr ⟨hl.known, hl.known', hl.vals, gi⟩
    · simp [hlk] at h1
  · simp only [if_true]
    exact .inr ⟨hl.known, hl.known', hl.vals, gi⟩

theorem objStep_inv (g : Bool) (ek ek' ev ev' : Val → Val → Out) (st st' : ForSt) (kv kv' : Val × Val)
    (hek : RelOut (ek kv.1 kv.2) (ek' kv'.1 kv'.2))
    (hev : RelOut (ev kv.1 kv.2) (ev' kv'.1 kv'.2))
    (hl : Live st st') (h1 : (objStep g ek ev st kv).diags = []) (h2 : (objStep g ek' ev' st' kv').diags = []) :
    FInv (objStep g ek ev st kv) (objStep g ek' ev' st' kv') := by
  rw [objStep_gate] at h1 h2
  rw [objStep_gate, objStep_gate]
  refine gate_inv keyVerdict_rel (fun (p : Fl × String) st => (objIns_le g p.1 p.2 (ev kv.1 kv.2) st).of_add)
    (fun (p : Fl × String) st => (objIns_le g p.1 p.2 (ev' kv'.1 kv'.2) st).of_add) hek hl ?_ h1 h2
  intro ⟨kf, k⟩ ⟨kf', k'⟩ hp st st' hl d1 d2
  cases (hp : k = k')
  exact objIns_inv g kf kf' k hev hl d1 d2

theorem forObjectStep_inv {γ : Type} (g : Bool) (ek ek' ev ev' : Val → Val → Out) (f f' : γ → Val → Val → Out)
    (cond : Option γ) (st st' : ForSt) (kv kv' : Val × Val)
    (hek : RelOut (ek kv.1 kv.2) (ek' kv'.1 kv'.2))
    (hev : RelOut (ev kv.1 kv.2) (ev' kv'.1 kv'.2))
    (hf : ∀ x, cond = some x → RelOut (f x kv.1 kv.2) (f' x kv'.1 kv'.2))
    (hl : Live st st') (h1 : (forObjectStep g ek ev (cond.map f) st kv).diags = [])
    (h2 : (forObjectStep g ek' ev' (cond.map f') st' kv').diags = []) :
    FInv (forObjectStep g ek ev (cond.map f) st kv) (forObjectStep g ek' ev' (cond.map f') st' kv') := by
  cases cond with
  | none => exact objStep_inv g ek ek' ev ev' st st' kv kv' hek hev hl h1 h2
  | some x =>
    simp only [Option.map_some] at h1 h2 ⊢
    rw [forObjectStep_gate] at h1 h2
    rw [forObjectStep_gate, forObjectStep_gate]
    exact gate_inv condVerdict_rel (fun _ st => objStep_le g ek ev st kv) (fun _ st => objStep_le g ek' ev' st kv')
      (hf x rfl) hl (fun _ _ _ st st' hl => objStep_inv g ek ek' ev ev' st st' kv kv' hek hev hl) h1 h2
end HclModel.Proofs
