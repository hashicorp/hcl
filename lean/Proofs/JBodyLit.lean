import HclModel.Json.Body
import Proofs.EvalSteps
import Proofs.ListLemmas
import Proofs.ValueConvert
/-!
`literal_agree` (C03): a JSON value without repeated object keys, read as a JSON expression (`jsonValue`),
is the value of the same literal written in the native syntax (`litExpr`) under the evaluator model.
-/
namespace HclModel.JBody.Proofs
open HclModel HclModel.Body HclModel.Proofs

theorem mem_keys_insertSorted {α : Type} (k : String) (v : α) (l : List (String × α)) (x : String) :
    x ∈ (insertSorted k v l).map (·.1) → x = k ∨ x ∈ l.map (·.1) := by
  induction l with
  | nil => simp [insertSorted]
  | cons p rest ih =>
    simp only [insertSorted]
    split
    · exact List.mem_cons.1
    · split
      · exact fun h => (List.mem_cons.1 h).imp_right (List.mem_cons_of_mem _)
      · intro h
        rcases List.mem_cons.1 h with h | h
        · exact Or.inr (h ▸ List.mem_cons_self)
        · exact (ih h).imp_right (List.mem_cons_of_mem _)

/-- inserting a fresh key into the grouped association list, seen through the "first value" projection -/
theorem map_groupInsert_fresh (k : String) (v : Val) (K : List (String × List Val))
    (h : k ∉ K.map (·.1)) :
    (groupInsert k v K).map (fun (p : String × List Val) => (p.1, p.2.headD Val.dynVal)) =
      insertSorted k v (K.map fun (p : String × List Val) => (p.1, p.2.headD Val.dynVal)) := by
  induction K with
  | nil => simp [groupInsert, insertSorted]
  | cons p rest ih =>
    obtain ⟨k', vs⟩ := p
    simp only [List.map_cons, List.mem_cons, not_or] at h
    simp only [groupInsert, List.map_cons, insertSorted]
    split
    · simp
    · have : (k == k') = false := by simpa using h.1
      simp only [this, Bool.false_eq_true, if_false, List.map_cons, ih h.2]

theorem tryConvert_str (f : Fl) (s : String) : tryConvert (.str f s) .str = .ok (.str f s) := by
  rw [tryConvert, convert_same (.str f s) .str rfl]

/-- one item `"k": v` of an object constructor whose key is new -/
theorem itemStep_lit (k : String) (vo : Out) (r : ForSt × Bool) (hv : vo.2 = []) (hr : r.2 = true)
    (hd : r.1.diags = []) (hm : r.1.marks = Fl.none) (hk : k ∉ r.1.kvs.map (·.1)) :
    itemStep (.str Fl.none k, []) vo r = ({ r.1 with kvs := groupInsert k vo.1 r.1.kvs }, true) := by
  obtain ⟨v, vd⟩ := vo
  obtain ⟨st, known⟩ := r
  simp only at hv hr hd hm hk
  subst hv hr
  have e1 : (Val.str Fl.none k).unmark = (Val.str Fl.none k, Fl.none) := rfl
  simp only [itemStep, hasErrors, List.isEmpty_nil, Bool.not_true, Bool.false_eq_true, if_false, Val.isNull,
    e1, tryConvert_str, lookupKey_eq_none k st.kvs hk, Option.isSome_none, List.append_nil, List.nil_append, hd, hm]
  rfl

theorem keys_jsonFields (props : List (String × JV)) (x : String) :
    x ∈ (jsonFields props).1.map (·.1) → x ∈ props.map (·.1) := by
  induction props with
  | nil => simp [jsonFields]
  | cons p rest ih =>
    obtain ⟨k, v⟩ := p
    simp only [jsonFields, List.map_cons, List.mem_cons]
    intro h
    rcases mem_keys_insertSorted _ _ _ _ h with h | h
    · exact Or.inl h
    · right
      apply ih
      simp only [List.mem_map, List.mem_filter] at h ⊢
      obtain ⟨a, ⟨ha, _⟩, e⟩ := h
      exact ⟨a, ha, e⟩

/-- a field whose key does not come again: nothing is dropped and no error is added -/
theorem jsonFields_cons_fresh (k : String) (x : JV) (rest : List (String × JV))
    (hk : k ∉ (jsonFields rest).1.map (·.1)) :
    jsonFields ((k, x) :: rest) =
      (insertSorted k (jsonValue x).1 (jsonFields rest).1, (jsonValue x).2 || (jsonFields rest).2) := by
  have hne : ∀ p ∈ (jsonFields rest).1, p.1 ≠ k := fun p hp e => hk (e ▸ List.mem_map_of_mem hp)
  have hf : (jsonFields rest).1.filter (·.1 != k) = (jsonFields rest).1 :=
    List.filter_eq_self.2 fun p hp => by simpa using hne p hp
  have ha : (jsonFields rest).1.any (·.1 == k) = false := by
    simpa only [List.any_eq_false, beq_iff_eq] using hne
  simp only [jsonFields, hf, ha, Bool.or_false]

mutual
theorem lit_value : ∀ (cx : Cx) (v : JV), uniqueKeys v = true →
    eval cx [] (litExpr v) = ((jsonValue v).1, []) ∧ (jsonValue v).2 = false
  | cx, .null, _ => ⟨rfl, rfl⟩
  | cx, .str s, _ => ⟨rfl, rfl⟩
  | cx, .num n, _ => ⟨rfl, rfl⟩
  | cx, .bool b, _ => ⟨rfl, rfl⟩
  | cx, .arr xs, h => by
    simp only [uniqueKeys] at h
    obtain ⟨h1, h2⟩ := lit_values cx xs h
    simp only [litExpr, jsonValue, eval_tuple, h1, h2, and_self]
  | cx, .obj props, h => by
    simp only [uniqueKeys, Bool.and_eq_true] at h
    have hnd := nodup_map_of_eraseDups_length _ _ h.1
    obtain ⟨h1, h2, h3, h4, h5⟩ := lit_fields cx props hnd h.2
    simp only [litExpr, jsonValue, eval_object, objectOut]
    rw [show evalItems cx [] (litItems props) = ((evalItems cx [] (litItems props)).1, true) from by rw [← h1]]
    simp only [Bool.not_true, Bool.false_eq_true, if_false, h2, h3, h5, and_true]
    rw [← h4]
theorem lit_values : ∀ (cx : Cx) (xs : List JV), uniqueKeysAll xs = true →
    evalList cx [] (litExprs xs) = ((jsonValues xs).1, []) ∧ (jsonValues xs).2 = false
  | cx, [], _ => ⟨rfl, rfl⟩
  | cx, x :: rest, h => by
    simp only [uniqueKeysAll, Bool.and_eq_true] at h
    obtain ⟨a1, a2⟩ := lit_value cx x h.1
    obtain ⟨b1, b2⟩ := lit_values cx rest h.2
    simp only [litExprs, jsonValues, evalList_cons, a1, a2, b1, b2, List.append_nil, Bool.or_self, and_self]
theorem lit_fields : ∀ (cx : Cx) (props : List (String × JV)), (props.map (·.1)).Nodup → uniqueKeysProps props = true →
    (evalItems cx [] (litItems props)).2 = true ∧
    (evalItems cx [] (litItems props)).1.diags = [] ∧
    (evalItems cx [] (litItems props)).1.marks = Fl.none ∧
    (evalItems cx [] (litItems props)).1.kvs.map (fun (p : String × List Val) => (p.1, p.2.headD Val.dynVal)) =
      (jsonFields props).1 ∧
    (jsonFields props).2 = false
  | cx, [], _, _ => ⟨rfl, rfl, rfl, rfl, rfl⟩
  | cx, (k, x) :: rest, hnd, h => by
    simp only [uniqueKeysProps, Bool.and_eq_true] at h
    simp only [List.map_cons, List.nodup_cons] at hnd
    obtain ⟨a1, a2⟩ := lit_value cx x h.1
    obtain ⟨b1, b2, b3, b4, b5⟩ := lit_fields cx rest hnd.2 h.2
    have hk : k ∉ (jsonFields rest).1.map (·.1) := fun hm => hnd.1 (keys_jsonFields rest k hm)
    have hk' : k ∉ (evalItems cx [] (litItems rest)).1.kvs.map (·.1) := by
      rw [← b4, List.map_map] at hk; exact hk
    simp only [litItems, evalItems_cons, eval_lit, a1]
    rw [itemStep_lit k _ _ rfl b1 b2 b3 hk', jsonFields_cons_fresh k x rest hk,
      map_groupInsert_fresh k _ _ hk', b4, a2, b5]
    exact ⟨rfl, b2, b3, rfl, rfl⟩
end

/-- evaluation of a literal written in the native syntax: value, and whether there were diagnostics -/
theorem literal_agree (cx : Cx) (v : JV) (h : uniqueKeys v = true) :
    ((eval cx [] (litExpr v)).1, !(eval cx [] (litExpr v)).2.isEmpty) = jsonValue v := by
  obtain ⟨h1, h2⟩ := lit_value cx v h
  rw [h1]
  simp only [List.isEmpty_nil, Bool.not_true]
  rw [← h2]

end HclModel.JBody.Proofs
