import HclModel.Expr.Eval
import Proofs.ValueConvert
/-!
What the operators and the conditional compute, independently of any analysis:
`callBin`, `callUn`, `shortCircuit`, `evalBin`, `evalUn`, `evalCondCore`, `evalCond`.

The Boolean in `evalBin true` and `evalCond true` is `keepDropped`, which the strict configuration (`strictCx`) sets:
the diagnostics of an operand that Go drops are kept, so a result without diagnostics has operands without.  With
`false` the lemmas about "no diagnostics" below do not hold.
Names: `f_nil` gives all of what `f` returns when it reports no diagnostic, `f_diags` only that its operands then
reported none.
-/
namespace HclModel.Proofs
open Val

theorem ite_cases {α : Type} {c : Prop} [Decidable c] {a b x : α}
    (h : (if c then a else b) = x) : c ∧ a = x ∨ ¬ c ∧ b = x := by
  by_cases hc : c
  · rw [if_pos hc] at h; exact .inl ⟨hc, h⟩
  · rw [if_neg hc] at h; exact .inr ⟨hc, h⟩

/-- An operand as the logical, comparison and arithmetic operators read it: unknown, null, a number, a boolean or
    anything else, flags aside. -/
def payload : Val → Val
  | .unk _ _ => .unk Fl.none .dyn
  | .null _ _ => .null Fl.none .dyn
  | .num _ q => .num Fl.none q
  | .bool _ b => .bool Fl.none b
  | _ => .str Fl.none ""

theorem callBin_logic {op : BinOp} (hop : op = .and ∨ op = .or) (a b : Val) : callBin op a b =
    if a.isNull ∨ b.isNull then throw (.fail "argument must not be null")
    else match a, b with
      | .bool _ x, .bool _ y => pure (.bool (a.fl.join b.fl) (if op = .and then x && y else x || y))
      | _, _ => pure (.unk (a.fl.join b.fl) .bool) := by
  rcases hop with rfl | rfl <;> rfl

theorem callBin_cmp {op : BinOp} (hop : op = .lt ∨ op = .le ∨ op = .gt ∨ op = .ge) (a b : Val) : callBin op a b =
    if a.isNull ∨ b.isNull then throw (.fail "argument must not be null")
    else match a, b with
      | .num _ x, .num _ y =>
        pure (.bool (a.fl.join b.fl) (match op with
          | .lt => decide (x < y) | .le => decide (x ≤ y) | .gt => decide (x > y) | _ => decide (x ≥ y)))
      | _, _ => pure (.unk (a.fl.join b.fl) .bool) := by
  rcases hop with rfl | rfl | rfl | rfl <;> rfl

/-- the arithmetic operators on two numbers; `f` is the join of the operands' flags -/
def arithNum (op : BinOp) (f : Fl) (x y : Rat) : R Val :=
  match op with
  | .add => pure (.num f (x + y))
  | .sub => pure (.num f (x - y))
  | .mul => if x * y = 0 ∧ (x < 0 ∨ y < 0) then throw (.unsupported "negative zero") else pure (.num f (x * y))
  | .div => if y = 0 then throw (.unsupported "division by zero")
            else if x = 0 ∧ y < 0 then throw (.unsupported "negative zero")
            else if stripFactor 2 (x / y).den (x / y).den ≠ 1 then throw (.unsupported "inexact quotient")
            else pure (.num f (x / y))
  | _ =>
    if y = 0 ∨ x.den ≠ 1 ∨ y.den ≠ 1 then throw (.unsupported "modulo outside the integers")
    else pure (.num f ((Int.tmod x.num y.num : Int) : Rat))

theorem arithNum_ok {op : BinOp} {f : Fl} {x y : Rat} {v : Val} (h : arithNum op f x y = .ok v) : ∃ q, v = .num f q := by
  unfold arithNum at h
  repeat' split at h
  all_goals first | exact ⟨_, (Except.ok.inj h).symm⟩ | cases h

theorem arithNum_setFl (op : BinOp) (f g : Fl) (x y : Rat) :
    (arithNum op f x y).map (·.setFl g) = arithNum op g x y := by
  unfold arithNum
  repeat' split
  all_goals rfl

theorem callBin_arith {op : BinOp} (hop : op = .add ∨ op = .sub ∨ op = .mul ∨ op = .div ∨ op = .mod) (a b : Val) :
    callBin op a b =
    if a.isNull ∨ b.isNull then throw (.fail "argument must not be null")
    else match a, b with
      | .num _ x, .num _ y => arithNum op (a.fl.join b.fl) x y
      | _, _ => pure (.unk (a.fl.join b.fl) .num) := by
  rcases hop with rfl | rfl | rfl | rfl | rfl <;> rfl

theorem binOp_groups (op : BinOp) : (op = .eq ∨ op = .ne) ∨ (op = .and ∨ op = .or) ∨
    (op = .lt ∨ op = .le ∨ op = .gt ∨ op = .ge) ∨ (op = .add ∨ op = .sub ∨ op = .mul ∨ op = .div ∨ op = .mod) := by
  cases op <;> simp

theorem isNull_payload (v : Val) : (payload v).isNull = v.isNull := by cases v <;> rfl

theorem callBin_payload {op : BinOp} (hop : op ≠ .eq ∧ op ≠ .ne) (a b : Val) :
    callBin op a b = (callBin op (payload a) (payload b)).map (·.setFl (a.fl.join b.fl)) := by
  -- the null test is the same on both sides
  have nul : ∀ {m m' : R Val}, m = m'.map (·.setFl (a.fl.join b.fl)) →
      (if a.isNull ∨ b.isNull then throw (.fail "argument must not be null") else m) =
        (if (payload a).isNull ∨ (payload b).isNull then throw (.fail "argument must not be null")
          else m').map (·.setFl (a.fl.join b.fl)) := by
    intro m m' e
    rw [isNull_payload, isNull_payload, e]
    split <;> rfl
  rcases binOp_groups op with h | h | h | h
  · exact absurd h (by simp [hop])
  -- the match reads `b` only when `a` is a constant of the operator's type
  · rw [callBin_logic h, callBin_logic h]
    apply nul
    cases a <;> first | rfl | (cases b <;> rfl)
  · rw [callBin_cmp h, callBin_cmp h]
    apply nul
    cases a <;> first | rfl | (cases b <;> rfl)
  · rw [callBin_arith h, callBin_arith h]
    apply nul
    cases a <;> first | rfl | (cases b <;> first | rfl | exact (arithNum_setFl ..).symm)

theorem scalar_cases {v : Val} (hn : v.isNull = false) :
    (v.typeOf = .num → v.isKnown = true → ∃ f q, v = .num f q) ∧
    (v.typeOf = .bool → v.isKnown = true → ∃ f x, v = .bool f x) := by
  cases v <;> simp_all [typeOf, isKnown, isNull]

theorem ok_notNull {ε : Type} {a b v : Val} {e : ε} {m : Except ε Val}
    (h : (if a.isNull ∨ b.isNull then throw e else m) = .ok v) : a.isNull = false ∧ b.isNull = false ∧ m = .ok v := by
  by_cases hn : a.isNull = true ∨ b.isNull = true
  · rw [if_pos hn] at h; cases h
  · rw [if_neg hn] at h
    exact ⟨(Bool.not_eq_true _).mp fun x => hn (.inl x), (Bool.not_eq_true _).mp fun x => hn (.inr x), h⟩

theorem callBin_ok {op : BinOp} (hop : op ≠ .eq ∧ op ≠ .ne) {a b v : Val} (hv : callBin op a b = .ok v) :
    v.fl = a.fl.join b.fl ∧ v.typeOf = op.resultTy ∧
    ((∃ f t, v = .unk f t) ∨ (∃ f q, v = .num f q) ∨ (∃ f x, v = .bool f x)) ∧
    (a.typeOf = op.paramTy → b.typeOf = op.paramTy → v.isKnown = (a.isKnown && b.isKnown)) := by
  -- typed non-null operands that are not two constants are not both known
  have dflt : a.isNull = false → b.isNull = false → a.typeOf = op.paramTy → b.typeOf = op.paramTy →
      (op.paramTy = .num ∧ ∀ f x g y, a = .num f x → b = .num g y → False) ∨
      (op.paramTy = .bool ∧ ∀ f x g y, a = .bool f x → b = .bool g y → False) → (a.isKnown && b.isKnown) = false := by
    intro na nb ta tb hne
    cases ka : a.isKnown <;> cases kb : b.isKnown <;> try rfl
    rcases hne with ⟨e, hne⟩ | ⟨e, hne⟩ <;> rw [e] at ta tb
    · obtain ⟨_, _, rfl⟩ := (scalar_cases na).1 ta ka
      obtain ⟨_, _, rfl⟩ := (scalar_cases nb).1 tb kb
      exact (hne _ _ _ _ rfl rfl).elim
    · obtain ⟨_, _, rfl⟩ := (scalar_cases na).2 ta ka
      obtain ⟨_, _, rfl⟩ := (scalar_cases nb).2 tb kb
      exact (hne _ _ _ _ rfl rfl).elim
  rcases binOp_groups op with h | h | h | h
  · exact absurd h (by simp [hop])
  · rw [callBin_logic h] at hv
    have ty : op.resultTy = .bool ∧ op.paramTy = .bool := by rcases h with rfl | rfl <;> exact ⟨rfl, rfl⟩
    obtain ⟨na, nb, hv⟩ := ok_notNull hv
    split at hv <;> cases hv
    · exact ⟨rfl, ty.1.symm, .inr (.inr ⟨_, _, rfl⟩), fun _ _ => rfl⟩
    · rename_i hne
      exact ⟨rfl, ty.1.symm, .inl ⟨_, _, rfl⟩, fun ta tb => (dflt na nb ta tb (.inr ⟨ty.2, hne⟩)).symm⟩
  · rw [callBin_cmp h] at hv
    have ty : op.resultTy = .bool ∧ op.paramTy = .num := by rcases h with rfl | rfl | rfl | rfl <;> exact ⟨rfl, rfl⟩
    obtain ⟨na, nb, hv⟩ := ok_notNull hv
    split at hv <;> cases hv
    · exact ⟨rfl, ty.1.symm, .inr (.inr ⟨_, _, rfl⟩), fun _ _ => rfl⟩
    · rename_i hne
      exact ⟨rfl, ty.1.symm, .inl ⟨_, _, rfl⟩, fun ta tb => (dflt na nb ta tb (.inl ⟨ty.2, hne⟩)).symm⟩
  · rw [callBin_arith h] at hv
    have ty : op.resultTy = .num ∧ op.paramTy = .num := by
      rcases h with rfl | rfl | rfl | rfl | rfl <;> exact ⟨rfl, rfl⟩
    obtain ⟨na, nb, hv⟩ := ok_notNull hv
    split at hv
    · obtain ⟨q, rfl⟩ := arithNum_ok hv
      exact ⟨rfl, ty.1.symm, .inr (.inl ⟨_, _, rfl⟩), fun _ _ => rfl⟩
    · rename_i hne
      cases hv
      exact ⟨rfl, ty.1.symm, .inl ⟨_, _, rfl⟩, fun ta tb => (dflt na nb ta tb (.inl ⟨ty.2, hne⟩)).symm⟩

theorem callBin_eq_form (op : BinOp) (hop : op = .eq ∨ op = .ne) (a b v : Val) (h : callBin op a b = .ok v) :
    (v = .unk ((flagsDeep a).join (flagsDeep b)) .bool ∧ equalsKnown a.unmarkDeep b.unmarkDeep = .ok none) ∨
    (∃ r, v = .bool ((flagsDeep a).join (flagsDeep b)) (if op = .eq then r else !r) ∧
      equalsKnown a.unmarkDeep b.unmarkDeep = .ok (some r)) := by
  rcases hop with rfl | rfl <;>
  · simp only [callBin, bind, Except.bind] at h
    cases he : equalsKnown a.unmarkDeep b.unmarkDeep with
    | error e => simp [he] at h
    | ok o =>
      cases o with
      | none => simp [he, pure, Except.pure] at h; left; exact ⟨h.symm, rfl⟩
      | some r => simp [he, pure, Except.pure] at h; right; exact ⟨r, h.symm, rfl⟩

/-- every operator answers with a leaf of its result type; the flags are those of the operands, collected deeply
    by `==` and `!=` -/
theorem callBin_leaf {op : BinOp} {a b v : Val} (h : callBin op a b = .ok v) :
    isLeaf v = true ∧ v.typeOf = op.resultTy ∧ (v.fl = (flagsDeep a).join (flagsDeep b) ∨ v.fl = a.fl.join b.fl) := by
  by_cases hop : op = .eq ∨ op = .ne
  · have ty : op.resultTy = .bool := by rcases hop with rfl | rfl <;> rfl
    rw [ty]
    rcases callBin_eq_form op hop a b v h with ⟨rfl, -⟩ | ⟨r, rfl, -⟩ <;> exact ⟨rfl, rfl, .inl rfl⟩
  · obtain ⟨hf, ty, sh, -⟩ := callBin_ok (not_or.mp hop) h
    refine ⟨?_, ty, .inr hf⟩
    rcases sh with ⟨_, _, rfl⟩ | ⟨_, _, rfl⟩ | ⟨_, _, rfl⟩ <;> rfl

/-- `v` is the constant that decides `||` (`d = true`) or `&&` (`d = false`) whatever the other operand is; cty's
    `False()` holds of a null boolean too -/
def decides (d : Bool) (v : Val) : Bool :=
  cond d (match v with | .bool _ true => true | _ => false)
    (match v with | .bool _ false => true | .null _ _ => true | _ => false)

/-- `shortCircuit` for `||` (`d = true`) and `&&` (`d = false`): a deciding operand gives `d`; an operand that
    would decide the dual operator leaves the result to the other operand, which here is unknown -/
def shortLogic (d : Bool) (l r : Val) (ld rd : List Diag) : Option (Val × List Diag) :=
  if !l.isKnown && !r.isKnown then (if !hasErrors ld then some (.unk Fl.none .bool, ld) else none)
  else if decides d l then some (.bool Fl.none d, ld)
  else if decides d r then some (.bool Fl.none d, rd)
  else if !l.isKnown && decides (!d) r then some (.unk Fl.none .bool, ld)
  else if !r.isKnown && decides (!d) l then some (.unk Fl.none .bool, rd)
  else none

theorem shortCircuit_eq (op : BinOp) (l r : Val) (ld rd : List Diag) : shortCircuit op l r ld rd =
    match op with
    | .or => shortLogic true l r ld rd
    | .and => shortLogic false l r ld rd
    | _ => none := by
  cases op <;> rfl

theorem isKnown_payload (v : Val) : (payload v).isKnown = v.isKnown := by cases v <;> rfl
theorem decides_payload (d : Bool) (v : Val) : decides d (payload v) = decides d v := by
  cases d <;> rcases v with _|_|_|_|⟨_, _|_⟩|_|_|_|_ <;> rfl
theorem isKnown_of_decides {d : Bool} {v : Val} (h : decides d v = true) : v.isKnown = true := by
  cases v <;> first | rfl | (cases d <;> cases h)

theorem shortCircuit_payload (op : BinOp) (l r : Val) (ld rd : List Diag) :
    shortCircuit op l r ld rd = shortCircuit op (payload l) (payload r) ld rd := by
  rw [shortCircuit_eq, shortCircuit_eq]
  cases op <;> simp only [shortLogic, isKnown_payload, decides_payload]

theorem shortCircuit_fst (op : BinOp) (l r : Val) {ld ld' : List Diag} (rd rd' : List Diag)
    (h : hasErrors ld = hasErrors ld') :
    (shortCircuit op l r ld rd).map (·.1) = (shortCircuit op l r ld' rd').map (·.1) := by
  rw [shortCircuit_eq, shortCircuit_eq]
  cases op <;>
    simp only [shortLogic, h, apply_ite (Option.map fun x : Val × List Diag => x.1), Option.map_some, Option.map_none]

theorem shortLogic_some {d : Bool} {l r v : Val} {ld rd ds : List Diag} (h : shortLogic d l r ld rd = some (v, ds)) :
    (ds = ld ∨ ds = rd) ∧
    ((v = .unk Fl.none .bool ∧ (l.isKnown = false ∨ r.isKnown = false)) ∨
     (v = .bool Fl.none d ∧ (decides d l = true ∨ decides d r = true))) := by
  have unk : ∀ {c : Bool}, (!c) = true → c = false := by simp
  rcases ite_cases h with ⟨c, h⟩ | ⟨-, h⟩
  · rcases ite_cases h with ⟨-, h⟩ | ⟨-, h⟩ <;> cases h
    exact ⟨.inl rfl, .inl ⟨rfl, .inl (unk (Bool.and_eq_true .. ▸ c).1)⟩⟩
  rcases ite_cases h with ⟨c, h⟩ | ⟨-, h⟩
  · cases h; exact ⟨.inl rfl, .inr ⟨rfl, .inl c⟩⟩
  rcases ite_cases h with ⟨c, h⟩ | ⟨-, h⟩
  · cases h; exact ⟨.inr rfl, .inr ⟨rfl, .inr c⟩⟩
  rcases ite_cases h with ⟨c, h⟩ | ⟨-, h⟩
  · cases h; exact ⟨.inl rfl, .inl ⟨rfl, .inl (unk (Bool.and_eq_true .. ▸ c).1)⟩⟩
  rcases ite_cases h with ⟨c, h⟩ | ⟨-, h⟩ <;> cases h
  exact ⟨.inr rfl, .inl ⟨rfl, .inr (unk (Bool.and_eq_true .. ▸ c).1)⟩⟩

theorem shortLogic_decided {d : Bool} {l r : Val} (ld rd : List Diag) (h : decides d l = true ∨ decides d r = true) :
    ∃ ds, shortLogic d l r ld rd = some (.bool Fl.none d, ds) := by
  have k : (!l.isKnown && !r.isKnown) = false := by
    rcases h with h | h <;> simp [isKnown_of_decides h]
  unfold shortLogic
  rw [k, if_neg Bool.false_ne_true]
  by_cases c : decides d l = true
  · exact ⟨ld, if_pos c⟩
  · rw [if_neg c, if_pos (h.resolve_left c)]; exact ⟨rd, rfl⟩

/-- `||` is decided by `true`, `&&` by `false` -/
def dominant (op : BinOp) : Bool := op == .or

theorem shortCircuit_some {op : BinOp} {l r v : Val} {ld rd ds : List Diag}
    (h : shortCircuit op l r ld rd = some (v, ds)) :
    (op = .or ∨ op = .and) ∧ (ds = ld ∨ ds = rd) ∧
    ((v = .unk Fl.none .bool ∧ (l.isKnown = false ∨ r.isKnown = false)) ∨
     (v = .bool Fl.none (dominant op) ∧ (decides (dominant op) l = true ∨ decides (dominant op) r = true))) := by
  rw [shortCircuit_eq] at h
  cases op <;> first
    | (cases h; done)
    | exact ⟨by simp, shortLogic_some h⟩

theorem shortCircuit_decided {op : BinOp} (hop : op = .or ∨ op = .and) {l r : Val} (ld rd : List Diag)
    (h : decides (dominant op) l = true ∨ decides (dominant op) r = true) :
    ∃ ds, shortCircuit op l r ld rd = some (.bool Fl.none (dominant op), ds) := by
  rw [shortCircuit_eq]
  rcases hop with rfl | rfl <;> exact shortLogic_decided ld rd h

/-- the value computed by a binary operator once both operands are converted and unmarked -/
def binCore (op : BinOp) (l r : Val) : R Val :=
  match shortCircuit op l r [] [] with
  | some (v, _) => .ok v
  | none => callBin op l r

theorem binCore_eq_callBin {op : BinOp} (hop : op = .eq ∨ op = .ne) (l r : Val) : binCore op l r = callBin op l r := by
  rcases hop with rfl | rfl <;> rfl

theorem binCore_payload {op : BinOp} (hop : op ≠ .eq ∧ op ≠ .ne) {l r l' r' v v' : Val}
    (hl : payload l = payload l') (hr : payload r = payload r')
    (hv : binCore op l r = .ok v) (hv' : binCore op l' r' = .ok v') : v' = v.setFl v'.fl := by
  have e : ∀ x : Val, x = x.setFl x.fl := fun x => by cases x <;> rfl
  unfold binCore at hv hv'
  rw [shortCircuit_payload, hl, hr, ← shortCircuit_payload] at hv
  cases hs : shortCircuit op l' r' [] [] with
  | some p =>
    obtain ⟨w, ds⟩ := p
    rw [hs] at hv hv'; cases hv; cases hv'
    exact e _
  | none =>
    rw [hs] at hv hv'
    rw [callBin_payload hop, hl, hr] at hv
    rw [callBin_payload hop] at hv'
    cases hw : callBin op (payload l') (payload r') with
    | error e => rw [hw] at hv; cases hv
    | ok w => rw [hw] at hv hv'; cases hv; cases hv'; cases w <;> rfl

theorem evalBin_nil {op : BinOp} {gl gr : Val} {ld rd : List Diag}
    (h : (evalBin true op (gl, ld) (gr, rd)).2 = []) :
    ld = [] ∧ rd = [] ∧ ∃ l r v, tryConvert gl op.paramTy = .ok l ∧ tryConvert gr op.paramTy = .ok r ∧
      binCore op l.unmark.1 r.unmark.1 = .ok v ∧
      evalBin true op (gl, ld) (gr, rd) = (v.withFl (l.fl.join r.fl), []) := by
  -- the evaluation is named `E` so that the goal stays small while its normal form is taken apart
  -- (likewise in `evalCondCore_nil`)
  generalize hE : evalBin true op (gl, ld) (gr, rd) = E at h ⊢
  unfold evalBin at hE
  dsimp only at hE
  cases hl : tryConvert gl op.paramTy with
  | error d => rw [hl] at hE; cases hr : tryConvert gr op.paramTy <;> (rw [hr] at hE; subst hE; simp at h)
  | ok l =>
    cases hr : tryConvert gr op.paramTy with
    | error d => rw [hl, hr] at hE; subst hE; simp at h
    | ok r =>
      rw [hl, hr] at hE
      dsimp only [unmark] at hE
      cases hs : shortCircuit op (l.setFl l.fl.unmark) (r.setFl r.fl.unmark) ld rd with
      | some p =>
        obtain ⟨w, ds⟩ := p
        rw [hs] at hE; subst hE
        replace h : ld ++ rd = [] := h
        obtain ⟨rfl, rfl⟩ := List.append_eq_nil_iff.mp h
        refine ⟨rfl, rfl, l, r, w, rfl, rfl, ?_, rfl⟩
        unfold binCore; dsimp only [unmark]; rw [hs]
      | none =>
        rw [hs] at hE
        dsimp only at hE
        by_cases he : hasErrors (ld ++ rd) = true
        · rw [if_pos he] at hE; subst hE
          replace h : ld ++ rd = [] := h
          rw [h] at he; cases he
        · rw [if_neg he] at hE
          cases hc : callBin op (l.setFl l.fl.unmark) (r.setFl r.fl.unmark) with
          | error e => rw [hc] at hE; subst hE; cases e <;> simp at h
          | ok v =>
            rw [hc] at hE; subst hE
            replace h : ld ++ rd = [] := h
            obtain ⟨rfl, rfl⟩ := List.append_eq_nil_iff.mp h
            refine ⟨rfl, rfl, l, r, v, rfl, rfl, ?_, rfl⟩
            unfold binCore; dsimp only [unmark]; rw [hs]; exact hc

theorem evalBin_diags {op : BinOp} {lo ro : Out} (h : (evalBin true op lo ro).2 = []) : lo.2 = [] ∧ ro.2 = [] :=
  have := evalBin_nil (gl := lo.1) (ld := lo.2) (gr := ro.1) (rd := ro.2) h
  ⟨this.1, this.2.1⟩

theorem callUn_ok {op : UnOp} {a r : Val} (h : callUn op a = .ok r) :
    a.isNull = false ∧ r.typeOf = op.resultTy ∧
    ((∃ x, a = .num r.fl x ∧ r = .num r.fl (-x)) ∨ (∃ x, a = .bool r.fl x ∧ r = .bool r.fl (!x)) ∨
      (r = .unk Fl.none op.resultTy ∧ (a.typeOf = op.paramTy → a.isKnown = false))) := by
  unfold callUn at h
  by_cases hn : a.isNull = true
  · rw [if_pos hn] at h; cases h
  rw [if_neg hn] at h
  have na := (Bool.not_eq_true _).mp hn
  split at h
  · split at h <;> cases h
    exact ⟨rfl, rfl, .inl ⟨_, rfl, rfl⟩⟩
  · cases h; exact ⟨rfl, rfl, .inr (.inl ⟨_, rfl, rfl⟩)⟩
  -- in the last two cases `a` is not a constant of the operand type
  · rename_i hne
    cases h
    refine ⟨na, rfl, .inr (.inr ⟨rfl, fun e => ?_⟩)⟩
    cases k : a.isKnown
    · rfl
    · obtain ⟨_, _, rfl⟩ := (scalar_cases na).1 e k; exact (hne _ _ rfl).elim
  · rename_i hne
    cases h
    refine ⟨na, rfl, .inr (.inr ⟨rfl, fun e => ?_⟩)⟩
    cases k : a.isKnown
    · rfl
    · obtain ⟨_, _, rfl⟩ := (scalar_cases na).2 e k; exact (hne _ _ rfl).elim

theorem evalUn_nil {op : UnOp} {g : Val} {ds : List Diag} (h : (evalUn op (g, ds)).2 = []) :
    ds = [] ∧ ∃ v r, tryConvert g op.paramTy = .ok v ∧ v.typeOf = op.paramTy ∧ callUn op v = .ok r ∧
      evalUn op (g, ds) = (r, []) := by
  unfold evalUn at h ⊢
  simp only [] at h ⊢
  split at h
  · simp at h
  · rename_i v hv
    cases ds with
    | cons d ds => simp [hasErrors] at h
    | nil =>
      simp only [hasErrors, List.isEmpty_nil, Bool.not_true, Bool.false_eq_true, if_false] at h ⊢
      split at h
      · rename_i r hr
        -- `callUn` has refused null, and a converted value that is not null has the type asked for
        have ty := (convert_prim (show op.paramTy.isPrim = true by cases op <;> rfl) (tryConvert_ok hv)
          ((tryConvert_isNull hv).symm.trans (callUn_ok hr).1)).2.2.2
        exact ⟨trivial, v, r, hv, ty, hr, by simp⟩
      · simp at h
      · simp at h

theorem evalUn_diags {op : UnOp} {o : Out} (h : (evalUn op o).2 = []) : o.2 = [] :=
  (evalUn_nil (g := o.1) (ds := o.2) h).1

/-- the unmarked null of no particular type takes the type of the other result -/
def isNullDyn (v : Val) : Bool := match v with | .null fl .dyn => !fl.m | _ => false

theorem unifyCond_eq (t f : Val) : unifyCond t f =
    if isNullDyn t then pure (some f.typeOf)
    else if isNullDyn f then pure (some t.typeOf)
    else if t.typeOf == .dyn || f.typeOf == .dyn then pure (some .dyn)
    else if t.typeOf == f.typeOf then pure (some t.typeOf)
    else
      match t.typeOf, f.typeOf with
      | .str, .num | .num, .str | .str, .bool | .bool, .str => pure (some .str)
      | .num, .bool | .bool, .num => pure none
      | a, b => if a.isPrim || b.isPrim then pure none else throw (.unsupported "unify collection types") := rfl

theorem typeOf_of_isNullDyn {v : Val} (h : isNullDyn v = true) : v.typeOf = .dyn := by
  unfold isNullDyn at h
  split at h
  · rfl
  · cases h

/-- the result of a conditional whose condition is unknown (`tv`, `fv` already unmarked), in the words of
    `evalCondCore`, so that `evalCondCore_eq` holds by unfolding; the lemmas are about its value, `condUnknownVal` -/
def condUnknown (rty : Ty) (ms : Fl) (tv fv : Val) (cd : List Diag) : Out :=
  if tv.isNull && fv.isNull then ((Val.null Fl.none rty).withFl ms, cd)
  else
    match tv, fv with
    | .num _ _, _ | _, .num _ _ =>
      if tv.typeOf == .num && fv.typeOf == .num then unsupportedOut "conditional: numeric range refinement"
      else ((Val.unk Fl.none rty).withFl ms, cd)
    | .list _ t xs, .list _ u ys =>
      if t == u && xs.length = ys.length then
        ((Val.list Fl.none t (List.replicate xs.length (Val.unk Fl.none t))).withFl ms, cd)
      else ((Val.unk Fl.none rty).withFl ms, cd)
    | .map _ t xs, .map _ u ys =>
      if t == u && xs.length = ys.length && xs.length = 0 then ((Val.map Fl.none t []).withFl ms, cd)
      else ((Val.unk Fl.none rty).withFl ms, cd)
    | _, _ => ((Val.unk Fl.none rty).withFl ms, cd)

def condPick (rty : Ty) (ms : Fl) (cd : List Diag) (v : Val) (ds : List Diag) (site : String) : Out :=
  match tryConvert v rty with
  | .ok v' => (v'.withFl ms, cd ++ ds)
  | .error d => ((Val.unk Fl.none rty).withFl ms, cd ++ ds ++ [if d.isUnsupported then d else ⟨site, []⟩])

def condKnown (rty : Ty) (ms : Fl) (cv tv fv : Val) (cd td fd : List Diag) : Out :=
  match tryConvert cv .bool with
  | .error d => (Val.unk Fl.none rty, cd ++ [if d.isUnsupported then d else ⟨"Incorrect condition type", []⟩])
  | .ok cb =>
    match cb with
    | .bool _ true => condPick rty ms cd tv td "Inconsistent conditional result types: true"
    | .bool _ false => condPick rty ms cd fv fd "Inconsistent conditional result types: false"
    | _ => ((Val.unk Fl.none rty).withFl ms, cd)

theorem evalCondCore_eq (cv tv fv : Val) (cd td fd : List Diag) :
    evalCondCore (cv, cd) (tv, td) (fv, fd) =
      match unifyCond tv fv with
      | .error (.unsupported w) => unsupportedOut w
      | .error (.fail _) => errOut "Inconsistent conditional result types"
      | .ok none => errOut "Inconsistent conditional result types"
      | .ok (some rty) =>
        if cv.isNull then (Val.unk Fl.none rty, cd ++ [⟨"Null condition", []⟩])
        else
          let ms := (cv.fl.join tv.fl).join fv.fl
          if !cv.isKnown then condUnknown rty ms tv.unmark.1 fv.unmark.1 cd
          else condKnown rty ms cv.unmark.1 tv.unmark.1 fv.unmark.1 cd td fd := by
  unfold evalCondCore
  dsimp only
  generalize unifyCond tv fv = u
  rcases u with e | _ | rty
  · cases e <;> rfl
  · rfl
  · dsimp only
    by_cases hn : cv.isNull = true
    · rw [if_pos hn, if_pos hn]
    · rw [if_neg hn, if_neg hn]
      have k : (cv.setFl cv.fl.unmark).isKnown = cv.isKnown := isKnown_setFl _ _
      simp only [unmark, k]
      by_cases hk : (!cv.isKnown) = true
      · rw [if_pos hk, if_pos hk]; rfl
      · rw [if_neg hk, if_neg hk]; rfl

/-- what `condUnknown` reads of a result value: null-ness, being a number, the type, and the element type and
    length of a list or map -/
def condView : Val → Val
  | .unk _ t => .unk Fl.none t
  | .null _ t => .null Fl.none t
  | .num _ _ => .num Fl.none 0
  | .list _ t xs => .list Fl.none t (List.replicate xs.length dynVal)
  | .map _ t xs => .map Fl.none t (List.replicate xs.length ("", dynVal))
  | _ => .str Fl.none ""

/-- the value `condUnknown` puts the marks on; `none` where go-cty would attach a numeric range -/
def condUnknownVal (rty : Ty) (tv fv : Val) : Option Val :=
  if tv.isNull && fv.isNull then some (.null Fl.none rty)
  else
    match tv, fv with
    | .num _ _, _ | _, .num _ _ => if tv.typeOf == .num && fv.typeOf == .num then none else some (.unk Fl.none rty)
    | .list _ t xs, .list _ u ys =>
      some (if t == u && xs.length = ys.length then .list Fl.none t (List.replicate xs.length (.unk Fl.none t))
        else .unk Fl.none rty)
    | .map _ t xs, .map _ u ys =>
      some (if t == u && xs.length = ys.length && xs.length = 0 then .map Fl.none t [] else .unk Fl.none rty)
    | _, _ => some (.unk Fl.none rty)

theorem condUnknown_eq (rty : Ty) (ms : Fl) (tv fv : Val) (cd : List Diag) : condUnknown rty ms tv fv cd =
    match condUnknownVal rty tv fv with
    | some v => (v.withFl ms, cd)
    | none => unsupportedOut "conditional: numeric range refinement" := by
  unfold condUnknown condUnknownVal
  by_cases hn : (tv.isNull && fv.isNull) = true
  · rw [if_pos hn, if_pos hn]
  · rw [if_neg hn, if_neg hn]
    split <;> first | rfl | (split <;> rfl)

theorem condUnknownVal_some {rty : Ty} {tv fv v : Val} (h : condUnknownVal rty tv fv = some v) :
    (v = .null Fl.none rty ∧ tv.isNull = true ∧ fv.isNull = true) ∨
    (v = .unk Fl.none rty ∧ ¬ (tv.isNull = true ∧ fv.isNull = true)) ∨
    (∃ f t xs, tv = .list f t xs ∧ v = .list Fl.none t (List.replicate xs.length (.unk Fl.none t))) ∨
    (∃ f t xs, tv = .map f t xs ∧ v = .map Fl.none t []) := by
  unfold condUnknownVal at h
  by_cases hn : (tv.isNull && fv.isNull) = true
  · rw [if_pos hn] at h; cases h
    exact .inl ⟨rfl, by simpa using hn⟩
  · rw [if_neg hn] at h
    have hn' : ¬ (tv.isNull = true ∧ fv.isNull = true) := by simpa using hn
    split at h
    · split at h <;> cases h; exact .inr (.inl ⟨rfl, hn'⟩)
    · split at h <;> cases h; exact .inr (.inl ⟨rfl, hn'⟩)
    · cases h; split
      · exact .inr (.inr (.inl ⟨_, _, _, rfl, rfl⟩))
      · exact .inr (.inl ⟨rfl, hn'⟩)
    · cases h; split
      · exact .inr (.inr (.inr ⟨_, _, _, rfl, rfl⟩))
      · exact .inr (.inl ⟨rfl, hn'⟩)
    · cases h; exact .inr (.inl ⟨rfl, hn'⟩)

theorem condUnknownVal_view (rty : Ty) (tv fv : Val) :
    condUnknownVal rty tv fv = condUnknownVal rty (condView tv) (condView fv) := by
  -- a pair of constructors selects the same alternative on both sides by computation; two lists or two maps are
  -- also asked for their lengths, which `condView` keeps as the length of a replicated list
  cases tv <;> cases fv <;> try rfl
  all_goals
    simp only [condUnknownVal, condView, isNull, Bool.false_and, Bool.false_eq_true, if_false, List.length_replicate]

theorem condPick_nil {rty : Ty} {ms : Fl} {cd ds : List Diag} {v : Val} {site : String}
    (h : (condPick rty ms cd v ds site).2 = []) :
    cd = [] ∧ ds = [] ∧ ∃ w, tryConvert v rty = .ok w ∧ condPick rty ms cd v ds site = (w.withFl ms, []) := by
  unfold condPick at h ⊢
  cases hc : tryConvert v rty with
  | error d => rw [hc] at h; simp at h
  | ok w =>
    rw [hc] at h
    obtain ⟨rfl, rfl⟩ := List.append_eq_nil_iff.mp h
    exact ⟨rfl, rfl, w, rfl, rfl⟩

theorem cond_bool {cv cb : Val} (hk : cv.isKnown = true) (hn : cv.isNull = false)
    (h : convert cv .bool = .ok cb) : ∃ f b, cb = .bool f b :=
  have ⟨_, _, n, t⟩ := convert_prim rfl h hn
  (scalar_cases n).2 t ((convert_isKnown h).trans hk)

theorem evalCondCore_nil {cv tv fv : Val} {cd td fd : List Diag}
    (h : (evalCondCore (cv, cd) (tv, td) (fv, fd)).2 = []) :
    cd = [] ∧ cv.isNull = false ∧ ∃ rty w, unifyCond tv fv = .ok (some rty) ∧
      evalCondCore (cv, cd) (tv, td) (fv, fd) = (w.withFl ((cv.fl.join tv.fl).join fv.fl), []) ∧
      ((cv.isKnown = false ∧ condUnknownVal rty tv.unmark.1 fv.unmark.1 = some w) ∨
       (cv.isKnown = true ∧ ∃ f b, tryConvert cv.unmark.1 .bool = .ok (.bool f b) ∧
         (if b then td else fd) = [] ∧ tryConvert (if b then tv else fv).unmark.1 rty = .ok w)) := by
  generalize hE : evalCondCore (cv, cd) (tv, td) (fv, fd) = E at h ⊢
  rw [evalCondCore_eq] at hE
  cases hu : unifyCond tv fv with
  | error e => rw [hu] at hE; subst hE; cases e <;> simp [unsupportedOut, errOut] at h
  | ok o =>
    cases o with
    | none => rw [hu] at hE; subst hE; simp [errOut] at h
    | some rty =>
      rw [hu] at hE
      dsimp only at hE
      cases hn : cv.isNull
      case true => rw [hn, if_pos rfl] at hE; subst hE; simp at h
      rw [hn, if_neg Bool.false_ne_true] at hE
      cases hk : cv.isKnown
      · rw [hk, if_pos (show (!false) = true from rfl), condUnknown_eq] at hE
        cases hw : condUnknownVal rty tv.unmark.1 fv.unmark.1 with
        | none => rw [hw] at hE; subst hE; simp [unsupportedOut] at h
        | some w =>
          rw [hw] at hE; subst hE
          obtain rfl : cd = [] := h
          exact ⟨rfl, rfl, rty, w, rfl, rfl, .inl ⟨rfl, hw⟩⟩
      · rw [hk, if_neg (show ¬ (!true) = true from Bool.false_ne_true)] at hE
        unfold condKnown at hE
        cases hc : tryConvert cv.unmark.1 .bool with
        | error d => rw [hc] at hE; subst hE; simp at h
        | ok cb =>
          -- so the last case of `condKnown` does not arise
          obtain ⟨f, b, rfl⟩ := cond_bool ((isKnown_setFl ..).trans hk) ((isNull_setFl ..).trans hn) (tryConvert_ok hc)
          rw [hc] at hE
          cases b <;>
          · subst hE
            obtain ⟨rfl, hd, w, hw, e⟩ := condPick_nil h
            exact ⟨rfl, rfl, rty, w, rfl, e, .inr ⟨rfl, f, _, rfl, hd, hw⟩⟩

theorem evalCondCore_diags {co to fo : Out} (h : (evalCondCore co to fo).2 = []) : co.2 = [] :=
  (evalCondCore_nil (cv := co.1) (cd := co.2) (tv := to.1) (td := to.2) (fv := fo.1) (fd := fo.2) h).1

theorem evalCond_nil {co to fo : Out} (h : (evalCond true co to fo).2 = []) :
    (evalCondCore co to fo).2 = [] ∧ to.2 = [] ∧ fo.2 = [] ∧
      (evalCond true co to fo).1 = (evalCondCore co to fo).1 := by
  unfold evalCond at h ⊢
  simp only [if_true, List.append_eq_nil_iff] at h ⊢
  exact ⟨h.1.1, h.1.2, h.2, trivial⟩

theorem evalCond_diags {co to fo : Out} (h : (evalCond true co to fo).2 = []) :
    co.2 = [] ∧ to.2 = [] ∧ fo.2 = [] :=
  have ⟨a, b, c, _⟩ := evalCond_nil h
  ⟨evalCondCore_diags a, b, c⟩

theorem unsupOnly_sub (all kept : List Diag) : ∀ d ∈ unsupOnly all kept, d ∈ all := by
  intro d hd
  unfold unsupOnly at hd
  split at hd
  · cases hd
  · exact (List.mem_filter.mp (List.mem_of_mem_take hd)).1

end HclModel.Proofs
