import Proofs.UnknownsSound
/-!
`conc` between a concrete and an abstract run of a splat expression whose body has a static primitive type: both
runs are read off `splatOut_clean`.
-/
namespace HclModel.Proofs.Unk
open Val

/-- what `splatResultTy` yields for a source of type `ty` when the body has type `T` -/
def splatRT (T : Ty) (ty : Ty) : Ty :=
  match ty with
  | .list _ => .list T
  | .tuple ts => .tuple (ts.map fun _ => T)
  | _ => .dyn

theorem typeOfList_map_const {T : Ty} (g : Val → Val) : ∀ (xs : List Val), (∀ x ∈ xs, typeOf (g x) = T) →
    typeOfList (xs.map g) = (typeOfList xs).map fun _ => T
  | [], _ => rfl
  | x :: xs, h => by
    simp only [List.map_cons, typeOfList]
    rw [h x (by simp), typeOfList_map_const g xs (fun y hy => h y (by simp [hy]))]

theorem typeOf_of_unmark_list {v : Val} {f : Fl} {u : Ty} {xs : List Val} (h : v.unmark.1 = .list f u xs) :
    v.typeOf = .list u := by
  have : v.unmark.1.typeOf = .list u := by rw [h]; rfl
  simpa using this

section
variable {each : Val → Out} {T : Ty} (hT : ∀ it, (each it).2 = [] → typeOf (each it).1 = T)
include hT

theorem resultTy_sty (sv : Val) (h : (splatResultTy each sv).2 = []) :
    (splatResultTy each sv).1 = splatRT T sv.typeOf := by
  unfold splatResultTy at h ⊢
  cases hty : sv.typeOf <;> simp only [hty, splatRT] at h ⊢
  case list t => rw [hT _ h]
  case tuple ts =>
    simp only [List.map_map, Ty.tuple.injEq]
    apply List.map_congr_left
    intro t ht
    exact hT _ (List.flatMap_eq_nil_iff.mp h _ (List.mem_map.mpr ⟨t, ht, rfl⟩))

/-- the element type of a splat over a list: that of the body -/
theorem splat_elemTy {src : Val} {u t : Ty} (hsrc : src.typeOf = .list u) {items : List Val}
    (hel : ∀ it ∈ items, (each it).2 = []) (ht : ∀ w ∈ (items.map each).map (·.1), w.typeOf = t)
    (he : (items.map each).map (·.1) = [] → splatResultTy each src = (.list t, [])) : t = T := by
  cases items with
  | nil =>
    have hr := he rfl
    have h1 := resultTy_sty hT src (by rw [hr])
    rw [hr, hsrc] at h1
    exact Ty.list.inj h1
  | cons it its =>
    rw [← ht (each it).1 (by simp)]
    exact hT it (hel it (by simp))

/-- the type of a splat over a source that is a list or tuple itself -/
theorem splat_type {keep : Bool} {sv : Val} {sd : List Diag} (hau : splatAutoUp sv = false)
    (h : (splatOut keep (sv, sd) each).2 = []) :
    typeOf (splatOut keep (sv, sd) each).1 = splatRT T sv.typeOf := by
  obtain ⟨e, na, q⟩ := splatOut_clean h
  have hsrc : splatSrc sv = sv := (splatSrc_cases sv).elim (fun c => by rw [hau] at c; cases c.1) (·.2)
  rw [e]
  cases hn : sv.isNull
  case true => rw [na hn] at hau; cases hau
  cases hd : (sv.typeOf == Ty.dyn)
  case true =>
    unfold splatAutoUp at hau
    rw [show sv.typeOf = .dyn by simpa using hd] at hau
    cases hau
  obtain ⟨q1, q2⟩ := q hn hd
  unfold splatElems at q2 ⊢
  rw [hsrc] at q1 q2 ⊢
  simp only [hau, Bool.false_and, Bool.false_eq_true, if_false]
  cases hk : sv.isKnown
  case false =>
    simp only [Bool.not_false, if_true, typeOf_withFl]
    exact resultTy_sty hT sv (q1 hk)
  simp only [Bool.not_true, Bool.false_eq_true, if_false]
  obtain ⟨hel, hf⟩ := q2 hk
  rcases splatFinish_clean (hf (by rw [hau]; rfl)) with ⟨⟨f, u, xs, hs⟩, t, e, ht, he⟩ | ⟨nl, e⟩ <;>
    rw [e, typeOf_withFl]
  · have hty := typeOf_of_unmark_list hs
    rw [hty, splat_elemTy hT hty hel ht he]
    rfl
  · -- a known value that is not null, of list or tuple type and not a list, is a tuple
    cases sv <;> simp only [splatAutoUp, typeOf, isNull, isKnown] at hau hn hk
    case unk => cases hk
    case list => exact absurd rfl (nl _ _ _)
    case tuple f xs =>
      simp only [typeOf, splatRT, unmark_fst, setFl, splatItems, Ty.tuple.injEq, List.map_map]
      exact typeOfList_map_const _ _ fun x hx => hT x (hel x hx)
    all_goals (first | cases hau | cases hn)
end

theorem conc_autoUp {v a : Val} (h : conc v a = true) (hd : a.typeOf ≠ .dyn) : splatAutoUp v = splatAutoUp a := by
  cases a
  case unk g t =>
    rcases conc_unk_iff.mp h with h1 | h1
    · exact absurd h1 hd
    · unfold splatAutoUp; rw [h1]; rfl
  case null => obtain ⟨f, rfl⟩ := conc_null_inv h; rfl
  case str => obtain ⟨f, rfl⟩ := conc_str_inv h; rfl
  case num => obtain ⟨f, rfl⟩ := conc_num_inv h; rfl
  case bool => obtain ⟨f, rfl⟩ := conc_bool_inv h; rfl
  case list => obtain ⟨f, xs, rfl, _⟩ := conc_list_inv h; rfl
  case map => obtain ⟨f, xs, rfl, _⟩ := conc_map_inv h; rfl
  case tuple => obtain ⟨f, xs, rfl, _⟩ := conc_tuple_inv h; rfl
  case object => obtain ⟨f, xs, rfl, _⟩ := conc_object_inv h; rfl

section
variable (F : Funcs)

theorem conc_sVals (ρc ρa : Env) (anon : String) (each : Expr) (ihe : ConcAt F each)
    (henv : concEnv ρc ρa) (hw : wfEnv ρc) : ∀ (xsa xsc : List Val), concL xsc xsa = true →
    (∀ it ∈ xsc, wfVal it = true) →
    (∀ it ∈ xsc, (eval (strictCx F) ((anon, it) :: ρc) each).2 = []) →
    (∀ it ∈ xsa, (eval (strictCx F) ((anon, it) :: ρa) each).2 = []) →
    concL ((xsc.map fun it => eval (strictCx F) ((anon, it) :: ρc) each).map (·.1))
      ((xsa.map fun it => eval (strictCx F) ((anon, it) :: ρa) each).map (·.1)) = true
  | [], [], _, _, _, _ => rfl
  | [], _ :: _, h, _, _, _ => by simp [concL] at h
  | _ :: _, [], h, _, _, _ => by simp [concL] at h
  | xa :: xsa, xc :: xsc, h, hwf, hc, ha => by
    simp only [concL, Bool.and_eq_true] at h
    simp only [List.map_cons, concL, Bool.and_eq_true]
    exact ⟨ihe _ _ (concEnv_cons henv anon h.1) (wfEnv_cons hw (hwf xc (by simp))) (hc _ (by simp)) (ha _ (by simp)),
      conc_sVals ρc ρa anon each ihe henv hw xsa xsc h.2 (fun it hit => hwf it (by simp [hit]))
        (fun it hit => hc it (by simp [hit])) (fun it hit => ha it (by simp [hit]))⟩

theorem conc_splat (ρc ρa : Env) (anon : String) (src each : Expr) (T : Ty) (hsty : staticTy each = some T)
    (ihs : RelOut (eval (strictCx F) ρc src) (eval (strictCx F) ρa src))
    (ihw : (eval (strictCx F) ρc src).2 = [] → wfVal (eval (strictCx F) ρc src).1 = true)
    (ihe : ConcAt F each)
    (henv : concEnv ρc ρa) (hw : wfEnv ρc)
    (hc : (eval (strictCx F) ρc (.splat anon src each)).2 = [])
    (ha : (eval (strictCx F) ρa (.splat anon src each)).2 = []) :
    conc (eval (strictCx F) ρc (.splat anon src each)).1 (eval (strictCx F) ρa (.splat anon src each)).1 = true := by
  have hT : ∀ ρ it, (eval (strictCx F) ((anon, it) :: ρ) each).2 = [] →
      typeOf (eval (strictCx F) ((anon, it) :: ρ) each).1 = T := fun ρ it => sty_eval F each T _ hsty
  rw [eval_splat] at hc ha ⊢
  rw [eval_splat]
  have hcc := ihs (splatOut_nil hc) (splatOut_nil ha)
  have hwf := ihw (splatOut_nil hc)
  generalize eval (strictCx F) ρc src = soc at hc hcc hwf ⊢
  generalize eval (strictCx F) ρa src = soa at ha hcc ⊢
  obtain ⟨svc, sdc⟩ := soc
  obtain ⟨sva, sda⟩ := soa
  simp only [] at hcc hwf
  obtain ⟨ea, -, qa⟩ := splatOut_clean ha
  obtain ⟨ec, -, qc⟩ := splatOut_clean hc
  rw [ea]
  cases hna : sva.isNull
  case true =>
    rw [ec, conc_null_right hcc hna]
    simp only [if_true, conc_withFl]
    rfl
  cases hda : (sva.typeOf == Ty.dyn)
  case true => exact conc_dynVal_withFl _ _
  have hda' : sva.typeOf ≠ .dyn := by simpa using hda
  obtain ⟨qa1, qa2⟩ := qa hna hda
  simp only [Bool.false_eq_true, if_false]
  cases hka : (splatSrc sva).isKnown
  case false =>
    -- the abstract source is an unknown list or tuple: the result is unknown, of the type of the concrete result
    simp only [Bool.not_false, if_true]
    rcases splatSrc_cases sva with ⟨-, e⟩ | ⟨haua, e⟩ <;> rw [e] at hka qa1 ⊢
    · cases hka
    · refine conc_of_type ?_
      rw [splat_type (hT ρc) ((conc_autoUp hcc hda').trans haua) hc, resultTy_sty (hT ρa) sva (qa1 hka),
        typeOf_of_conc_unknown hcc hka hda']
  cases hua : (splatAutoUp sva && !sva.isKnown)
  case true => exact conc_dynVal_withFl _ _
  simp only [Bool.not_true, Bool.false_eq_true, if_false]
  -- the abstract source is known, and so is the concrete one: it is iterated in the same way
  have hau := conc_autoUp hcc hda'
  have hkna : sva.isKnown = true := by
    rcases splatSrc_cases sva with ⟨h1, -⟩ | ⟨-, e⟩
    · simpa [h1] using hua
    · rw [e] at hka; exact hka
  have hkc := conc_isKnown hcc hkna
  have hnc : svc.isNull = false := (conc_isNull hcc hkna).trans hna
  have hdc : (svc.typeOf == Ty.dyn) = false := Bool.eq_false_iff.2 fun h => hda' (conc_dyn hcc (by simpa using h))
  have hsrc : conc (splatSrc svc) (splatSrc sva) = true ∧ wfVal (splatSrc svc) = true ∧
      (splatSrc svc).isKnown = true := by
    unfold splatSrc
    rw [hau]
    split
    · exact ⟨by simp [conc, concL, hcc], by simp [wfVal, wfList, hwf], rfl⟩
    · exact ⟨hcc, hwf, hkc⟩
  obtain ⟨hcs, hwfs, hksc⟩ := hsrc
  have huc : (splatAutoUp svc && !svc.isKnown) = false := by simp [hkc]
  obtain ⟨hela, hfa⟩ := qa2 hka
  obtain ⟨helc, hfc⟩ := (qc hnc hdc).2 hksc
  rw [ec]
  simp only [hnc, hdc, hksc, huc, Bool.not_true, Bool.false_eq_true, if_false]
  have hcu : conc (splatSrc svc).unmark.1 (splatSrc sva).unmark.1 = true := by simpa using hcs
  have hvals := conc_sVals F ρc ρa anon each ihe henv hw _ _
    (splatItems_conc hcu (by simpa using hka)) (items_wf (by simpa using hwfs)) helc hela
  rcases splatFinish_clean (hfa hua) with ⟨⟨fa, ua, xsa, hsa⟩, ta, e1, hta, hea⟩ | ⟨nla, e1⟩ <;>
    rcases splatFinish_clean (hfc huc) with ⟨⟨fc, uc, xsc, hsc⟩, tc, e2, htc, hec⟩ | ⟨nlc, e2⟩ <;>
    rw [e1, e2, conc_withFl]
  · rw [splat_elemTy (hT ρa) (typeOf_of_unmark_list hsa) hela hta hea,
      splat_elemTy (hT ρc) (typeOf_of_unmark_list hsc) helc htc hec]
    simpa [conc, splatElems] using hvals
  · rw [hsa] at hcu
    obtain ⟨f, xs, hs, -⟩ := conc_list_inv hcu
    exact absurd hs (nlc _ _ _)
  · -- the abstract source is known, so it is a list as the concrete one is
    exfalso
    rw [hsc] at hcu
    have hka' : (splatSrc sva).unmark.1.isKnown = true := by simpa using hka
    cases hs : (splatSrc sva).unmark.1 <;> rw [hs] at hcu hka' <;> simp [conc, isKnown] at hcu hka'
    exact nla _ _ _ hs
  · simpa [conc, splatElems] using hvals
end

end HclModel.Proofs.Unk
