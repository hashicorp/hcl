import HclModel.Value.Access
/-!
Facts about types, flags and values that mention no analysis: the layer below all of them.  The erasure `er`
clears every flag of a value: what reads no flag (`typeOf`, `whollyKnown`, `eqErased`) sees a value through it.
-/
namespace HclModel.Proofs
open Val

mutual
theorem Ty.beq_refl : ∀ a : Ty, Ty.beq a a = true
  | .str | .num | .bool | .dyn => rfl
  | .list a | .map a => Ty.beq_refl a
  | .tuple as => Ty.beqList_refl as
  | .object fs => Ty.beqFields_refl fs
theorem Ty.beqList_refl : ∀ as : List Ty, Ty.beqList as as = true
  | [] => rfl
  | a :: as => Bool.and_eq_true_iff.2 ⟨Ty.beq_refl a, Ty.beqList_refl as⟩
theorem Ty.beqFields_refl : ∀ as : List (String × Ty), Ty.beqFields as as = true
  | [] => rfl
  | (k, a) :: as =>
    Bool.and_eq_true_iff.2 ⟨Bool.and_eq_true_iff.2 ⟨beq_self_eq_true k, Ty.beq_refl a⟩, Ty.beqFields_refl as⟩
end

/- `Ty.beq` computes on constructors: a hypothesis about two different constructors is `false = true` up to
   unfolding. -/
mutual
theorem Ty.beq_eq : ∀ a b : Ty, Ty.beq a b = true → a = b
  | .str, b, h => by cases b with | str => rfl | _ => exact absurd h Bool.false_ne_true
  | .num, b, h => by cases b with | num => rfl | _ => exact absurd h Bool.false_ne_true
  | .bool, b, h => by cases b with | bool => rfl | _ => exact absurd h Bool.false_ne_true
  | .dyn, b, h => by cases b with | dyn => rfl | _ => exact absurd h Bool.false_ne_true
  | .list a, b, h => by
    cases b with | list b => exact congrArg _ (Ty.beq_eq a b h) | _ => exact absurd h Bool.false_ne_true
  | .map a, b, h => by
    cases b with | map b => exact congrArg _ (Ty.beq_eq a b h) | _ => exact absurd h Bool.false_ne_true
  | .tuple as, b, h => by
    cases b with | tuple bs => exact congrArg _ (Ty.beqList_eq as bs h) | _ => exact absurd h Bool.false_ne_true
  | .object as, b, h => by
    cases b with | object bs => exact congrArg _ (Ty.beqFields_eq as bs h) | _ => exact absurd h Bool.false_ne_true
theorem Ty.beqList_eq : ∀ as bs : List Ty, Ty.beqList as bs = true → as = bs
  | [], [], _ => rfl
  | [], _ :: _, h | _ :: _, [], h => absurd h Bool.false_ne_true
  | a :: as, b :: bs, h =>
    have h := Bool.and_eq_true_iff.1 h
    congr (congrArg _ (Ty.beq_eq a b h.1)) (Ty.beqList_eq as bs h.2)
theorem Ty.beqFields_eq : ∀ as bs : List (String × Ty), Ty.beqFields as bs = true → as = bs
  | [], [], _ => rfl
  | [], _ :: _, h | _ :: _, [], h => absurd h Bool.false_ne_true
  | (k, a) :: as, (l, b) :: bs, h => by
    have ⟨hka, hs⟩ := Bool.and_eq_true_iff.1 h
    have ⟨hk, ha⟩ := Bool.and_eq_true_iff.1 hka
    rw [eq_of_beq hk, Ty.beq_eq a b ha, Ty.beqFields_eq as bs hs]
end

instance : LawfulBEq Ty where
  rfl := Ty.beq_refl _
  eq_of_beq := Ty.beq_eq _ _

def isLeaf : Val → Bool
  | .unk _ _ | .null _ _ | .str _ _ | .num _ _ | .bool _ _ => true
  | _ => false

/-- Induction over a value: the children of a collection are given through membership, so that one
    predicate on values is enough. -/
theorem val_induction {P : Val → Prop} (leaf : ∀ v, isLeaf v = true → P v)
    (list : ∀ f t xs, (∀ x ∈ xs, P x) → P (.list f t xs))
    (map : ∀ f t kvs, (∀ p ∈ kvs, P p.2) → P (.map f t kvs))
    (tuple : ∀ f xs, (∀ x ∈ xs, P x) → P (.tuple f xs))
    (object : ∀ f kvs, (∀ p ∈ kvs, P p.2) → P (.object f kvs)) : ∀ v, P v :=
  @Val.rec P (fun xs => ∀ x ∈ xs, P x) (fun kvs => ∀ p ∈ kvs, P p.2) (fun p => P p.2)
    (fun _ _ => leaf _ rfl) (fun _ _ => leaf _ rfl) (fun _ _ => leaf _ rfl) (fun _ _ => leaf _ rfl)
    (fun _ _ => leaf _ rfl) list map tuple object
    (fun _ h => nomatch h) (fun _ _ hx hxs _ h => (List.mem_cons.mp h).elim (· ▸ hx) (hxs _))
    (fun _ h => nomatch h) (fun _ _ hx hxs _ h => (List.mem_cons.mp h).elim (· ▸ hx) (hxs _))
    (fun _ _ h => h)

theorem typeOfList_length : ∀ xs : List Val, (typeOfList xs).length = xs.length
  | [] => rfl
  | _ :: xs => by simp [typeOfList, typeOfList_length xs]

theorem typeOfList_getElem? : ∀ (xs : List Val) (i : Nat), (typeOfList xs)[i]? = xs[i]?.map typeOf
  | [], i => by simp [typeOfList]
  | x :: xs, 0 => by simp [typeOfList]
  | x :: xs, i+1 => by simp [typeOfList, typeOfList_getElem? xs i]

theorem shape_str {v : Val} (h : v.typeOf = .str) :
    (∃ f, v = .unk f .str) ∨ (∃ f, v = .null f .str) ∨ (∃ f s, v = .str f s) := by
  cases v <;> simp_all [typeOf]
theorem shape_num {v : Val} (h : v.typeOf = .num) :
    (∃ f, v = .unk f .num) ∨ (∃ f, v = .null f .num) ∨ (∃ f q, v = .num f q) := by
  cases v <;> simp_all [typeOf]
theorem shape_bool {v : Val} (h : v.typeOf = .bool) :
    (∃ f, v = .unk f .bool) ∨ (∃ f, v = .null f .bool) ∨ (∃ f b, v = .bool f b) := by
  cases v <;> simp_all [typeOf]
theorem shape_dyn {v : Val} (h : v.typeOf = .dyn) :
    (∃ f, v = .unk f .dyn) ∨ (∃ f, v = .null f .dyn) := by
  cases v <;> simp_all [typeOf]
theorem shape_list {v : Val} {t : Ty} (h : v.typeOf = .list t) :
    (∃ f, v = .unk f (.list t)) ∨ (∃ f, v = .null f (.list t)) ∨ (∃ f xs, v = .list f t xs) := by
  cases v <;> simp_all [typeOf]
theorem shape_map {v : Val} {t : Ty} (h : v.typeOf = .map t) :
    (∃ f, v = .unk f (.map t)) ∨ (∃ f, v = .null f (.map t)) ∨ (∃ f xs, v = .map f t xs) := by
  cases v <;> simp_all [typeOf]
theorem shape_tuple {v : Val} {ts : List Ty} (h : v.typeOf = .tuple ts) :
    (∃ f, v = .unk f (.tuple ts)) ∨ (∃ f, v = .null f (.tuple ts)) ∨
      (∃ f xs, v = .tuple f xs ∧ typeOfList xs = ts) := by
  cases v <;> simp_all [typeOf]
  exact ⟨_, _, ⟨rfl, rfl⟩, h⟩
theorem shape_object {v : Val} {fs : List (String × Ty)} (h : v.typeOf = .object fs) :
    (∃ f, v = .unk f (.object fs)) ∨ (∃ f, v = .null f (.object fs)) ∨
      (∃ f xs, v = .object f xs ∧ typeOfFields xs = fs) := by
  cases v <;> simp_all [typeOf]
  exact ⟨_, _, ⟨rfl, rfl⟩, h⟩

@[simp] theorem fl_unk (f : Fl) (t : Ty) : (Val.unk f t).fl = f := rfl
@[simp] theorem fl_null (f : Fl) (t : Ty) : (Val.null f t).fl = f := rfl
@[simp] theorem fl_str (f : Fl) (s : String) : (Val.str f s).fl = f := rfl
@[simp] theorem fl_num (f : Fl) (q : Rat) : (Val.num f q).fl = f := rfl
@[simp] theorem fl_bool (f : Fl) (b : Bool) : (Val.bool f b).fl = f := rfl
@[simp] theorem fl_list (f : Fl) (t : Ty) (xs : List Val) : (Val.list f t xs).fl = f := rfl
@[simp] theorem fl_map (f : Fl) (t : Ty) (xs : List (String × Val)) : (Val.map f t xs).fl = f := rfl
@[simp] theorem fl_tuple (f : Fl) (xs : List Val) : (Val.tuple f xs).fl = f := rfl
@[simp] theorem fl_object (f : Fl) (xs : List (String × Val)) : (Val.object f xs).fl = f := rfl
@[simp] theorem fl_dynVal : Val.dynVal.fl = Fl.none := rfl
@[simp] theorem fl_setFl (v : Val) (f : Fl) : (v.setFl f).fl = f := by cases v <;> rfl
@[simp] theorem setFl_setFl (v : Val) (f g : Fl) : (v.setFl f).setFl g = v.setFl g := by cases v <;> rfl
@[simp] theorem setFl_fl (v : Val) : v.setFl v.fl = v := by cases v <;> rfl
@[simp] theorem typeOf_setFl (v : Val) (f : Fl) : (v.setFl f).typeOf = v.typeOf := by cases v <;> rfl
@[simp] theorem fl_withFl (v : Val) (f : Fl) : (v.withFl f).fl = v.fl.join f := by simp [withFl]
@[simp] theorem typeOf_withFl (v : Val) (f : Fl) : (v.withFl f).typeOf = v.typeOf := by simp [withFl]
@[simp] theorem isNull_setFl (v : Val) (f : Fl) : (v.setFl f).isNull = v.isNull := by cases v <;> rfl
@[simp] theorem isNull_withFl (v : Val) (f : Fl) : (v.withFl f).isNull = v.isNull := by simp [withFl]
@[simp] theorem isKnown_setFl (v : Val) (f : Fl) : (v.setFl f).isKnown = v.isKnown := by cases v <;> rfl
@[simp] theorem isKnown_withFl (v : Val) (f : Fl) : (v.withFl f).isKnown = v.isKnown := by simp [withFl]
@[simp] theorem unmark_fst (v : Val) : v.unmark.1 = v.setFl v.fl.unmark := rfl
@[simp] theorem unmark_snd (v : Val) : v.unmark.2 = v.fl := rfl

@[simp] theorem isLeaf_setFl (v : Val) (f : Fl) : isLeaf (v.setFl f) = isLeaf v := by
  cases v <;> rfl
@[simp] theorem isLeaf_withFl (v : Val) (f : Fl) : isLeaf (v.withFl f) = isLeaf v := by simp [withFl]

theorem isLeaf_unmark (v : Val) : isLeaf v.unmark.1 = isLeaf v := by simp

theorem isLeaf_of_prim {v : Val} (h : v.typeOf.isPrim = true) : isLeaf v = true := by
  cases v <;> simp_all [typeOf, Ty.isPrim, isLeaf]
@[simp] theorem join_m (a b : Fl) : (a.join b).m = (a.m || b.m) := rfl
@[simp] theorem join_g (a b : Fl) : (a.join b).g = (a.g || b.g) := rfl
@[simp] theorem unmark_m (a : Fl) : a.unmark.m = false := rfl
@[simp] theorem none_m : Fl.none.m = false := rfl
@[simp] theorem join_none (a : Fl) : a.join Fl.none = a := by cases a; simp [Fl.join, Fl.none]
@[simp] theorem none_join (a : Fl) : Fl.none.join a = a := by cases a; simp [Fl.join, Fl.none]
theorem join_assoc (a b c : Fl) : (a.join b).join c = a.join (b.join c) := by
  simp [Fl.join, Bool.or_assoc]
@[simp] theorem withFl_none (v : Val) : v.withFl Fl.none = v := by simp [withFl]
@[simp] theorem withFl_withFl (v : Val) (f g : Fl) : (v.withFl f).withFl g = v.withFl (f.join g) := by
  simp [withFl, join_assoc]
@[simp] theorem whollyKnown_setFl (v : Val) (f : Fl) : (v.setFl f).whollyKnown = v.whollyKnown := by
  cases v <;> rfl
@[simp] theorem whollyKnown_withFl (v : Val) (f : Fl) : (v.withFl f).whollyKnown = v.whollyKnown := by
  simp [withFl]

theorem unmarkDeepList_eq_map (xs : List Val) : unmarkDeepList xs = xs.map unmarkDeep := by
  induction xs with
  | nil => rfl
  | cons x xs ih => simp [unmarkDeepList, ih]

theorem mem_of_lookupKey {α : Type} : ∀ {xs : List (String × α)} {k : String} {x : α},
    lookupKey k xs = some x → (k, x) ∈ xs
  | [], _, _, h => by cases h
  | (k', y) :: ys, k, x, h => by
    simp only [lookupKey] at h
    split at h
    · rename_i hk; cases h; simp [eq_of_beq hk]
    · exact List.mem_cons_of_mem _ (mem_of_lookupKey h)

theorem lookupKey_typeOfFields (k : String) : ∀ kvs : List (String × Val),
    lookupKey k (typeOfFields kvs) = (lookupKey k kvs).map typeOf
  | [] => rfl
  | (k', x) :: kvs => by
    simp only [typeOfFields, lookupKey]
    split
    · rfl
    · exact lookupKey_typeOfFields k kvs

mutual
/-- the value with every flag cleared -/
def er : Val → Val
  | .list _ t xs => .list Fl.none t (erL xs)
  | .tuple _ xs => .tuple Fl.none (erL xs)
  | .map _ t kvs => .map Fl.none t (erF kvs)
  | .object _ kvs => .object Fl.none (erF kvs)
  | .unk _ t => .unk Fl.none t
  | .null _ t => .null Fl.none t
  | .str _ s => .str Fl.none s
  | .num _ q => .num Fl.none q
  | .bool _ b => .bool Fl.none b
def erL : List Val → List Val
  | [] => []
  | x :: xs => er x :: erL xs
def erF : List (String × Val) → List (String × Val)
  | [] => []
  | (k, x) :: xs => (k, er x) :: erF xs
end

mutual
theorem eqErased_iff : ∀ (a b : Val), eqErased a b = true ↔ er a = er b
  | .unk _ _, b | .null _ _, b | .str _ _, b | .num _ _, b | .bool _ _, b => by
    cases b <;> simp [eqErased, er]
  | .list _ _ xs, b | .tuple _ xs, b => by cases b <;> simp [eqErased, er, eqErasedList_iff xs]
  | .map _ _ xs, b | .object _ xs, b => by cases b <;> simp [eqErased, er, eqErasedFields_iff xs]
theorem eqErasedList_iff : ∀ (xs ys : List Val), eqErasedList xs ys = true ↔ erL xs = erL ys
  | [], ys => by cases ys <;> simp [eqErasedList, erL]
  | x :: xs, ys => by
    cases ys with
    | nil => simp [eqErasedList, erL]
    | cons y ys => simp [eqErasedList, erL, eqErased_iff x y, eqErasedList_iff xs ys]
theorem eqErasedFields_iff : ∀ (xs ys : List (String × Val)), eqErasedFields xs ys = true ↔ erF xs = erF ys
  | [], ys => by
    cases ys with
    | nil => simp [eqErasedFields, erF]
    | cons y ys => obtain ⟨l, y⟩ := y; simp [eqErasedFields, erF]
  | (k, x) :: xs, ys => by
    cases ys with
    | nil => simp [eqErasedFields, erF]
    | cons y ys =>
      obtain ⟨l, y⟩ := y
      simp [eqErasedFields, erF, eqErased_iff x y, eqErasedFields_iff xs ys, and_assoc]
end

theorem er_eq_of_eqErased (a b : Val) : eqErased a b = true → er a = er b := (eqErased_iff a b).mp
theorem erL_eq_of_eqErased : ∀ (xs ys : List Val), eqErasedList xs ys = true → erL xs = erL ys :=
  fun xs ys => (eqErasedList_iff xs ys).mp
theorem erF_eq_of_eqErased : ∀ (xs ys : List (String × Val)), eqErasedFields xs ys = true → erF xs = erF ys :=
  fun xs ys => (eqErasedFields_iff xs ys).mp

mutual
theorem er_er : ∀ a : Val, er (er a) = er a
  | .unk _ _ | .null _ _ | .str _ _ | .num _ _ | .bool _ _ => rfl
  | .list _ _ xs | .tuple _ xs => by simp [er, erL_erL xs]
  | .map _ _ xs | .object _ xs => by simp [er, erF_erF xs]
theorem erL_erL : ∀ xs : List Val, erL (erL xs) = erL xs
  | [] => rfl
  | x :: xs => by simp [erL, er_er x, erL_erL xs]
theorem erF_erF : ∀ xs : List (String × Val), erF (erF xs) = erF xs
  | [] => rfl
  | (k, x) :: xs => by simp [erF, er_er x, erF_erF xs]
end

theorem eqErased_er_left (a b : Val) : eqErased (er a) b = eqErased a b :=
  Bool.eq_iff_iff.mpr (by rw [eqErased_iff, eqErased_iff, er_er])
theorem eqErasedList_er_left : ∀ (xs ys : List Val), eqErasedList (erL xs) ys = eqErasedList xs ys :=
  fun xs ys => Bool.eq_iff_iff.mpr (by rw [eqErasedList_iff, eqErasedList_iff, erL_erL])
theorem eqErasedFields_er_left : ∀ (xs ys : List (String × Val)), eqErasedFields (erF xs) ys = eqErasedFields xs ys :=
  fun xs ys => Bool.eq_iff_iff.mpr (by rw [eqErasedFields_iff, eqErasedFields_iff, erF_erF])
theorem eqErased_er_right (a b : Val) : eqErased a (er b) = eqErased a b :=
  Bool.eq_iff_iff.mpr (by rw [eqErased_iff, eqErased_iff, er_er])
theorem eqErasedList_er_right : ∀ (xs ys : List Val), eqErasedList xs (erL ys) = eqErasedList xs ys :=
  fun xs ys => Bool.eq_iff_iff.mpr (by rw [eqErasedList_iff, eqErasedList_iff, erL_erL])
theorem eqErasedFields_er_right : ∀ (xs ys : List (String × Val)), eqErasedFields xs (erF ys) = eqErasedFields xs ys :=
  fun xs ys => Bool.eq_iff_iff.mpr (by rw [eqErasedFields_iff, eqErasedFields_iff, erF_erF])

mutual
theorem typeOf_er : ∀ a : Val, typeOf (er a) = typeOf a
  | .unk _ _ | .null _ _ | .str _ _ | .num _ _ | .bool _ _ => by simp [er, typeOf]
  | .list _ _ _ | .map _ _ _ => by simp [er, typeOf]
  | .tuple _ xs => by simp [er, typeOf, typeOfList_er xs]
  | .object _ xs => by simp [er, typeOf, typeOfFields_er xs]
theorem typeOfList_er : ∀ xs : List Val, typeOfList (erL xs) = typeOfList xs
  | [] => by simp [erL, typeOfList]
  | x :: xs => by simp [erL, typeOfList, typeOf_er x, typeOfList_er xs]
theorem typeOfFields_er : ∀ xs : List (String × Val), typeOfFields (erF xs) = typeOfFields xs
  | [] => by simp [erF, typeOfFields]
  | (k, x) :: xs => by simp [erF, typeOfFields, typeOf_er x, typeOfFields_er xs]
end

mutual
theorem whollyKnown_er : ∀ a : Val, whollyKnown (er a) = whollyKnown a
  | .unk _ _ | .null _ _ | .str _ _ | .num _ _ | .bool _ _ => by simp [er, whollyKnown]
  | .list _ _ xs => by simp [er, whollyKnown, whollyKnownList_er xs]
  | .tuple _ xs => by simp [er, whollyKnown, whollyKnownList_er xs]
  | .map _ _ xs => by simp [er, whollyKnown, whollyKnownFields_er xs]
  | .object _ xs => by simp [er, whollyKnown, whollyKnownFields_er xs]
theorem whollyKnownList_er : ∀ xs : List Val, whollyKnownList (erL xs) = whollyKnownList xs
  | [] => by simp [erL, whollyKnownList]
  | x :: xs => by simp [erL, whollyKnownList, whollyKnown_er x, whollyKnownList_er xs]
theorem whollyKnownFields_er : ∀ xs : List (String × Val), whollyKnownFields (erF xs) = whollyKnownFields xs
  | [] => by simp [erF, whollyKnownFields]
  | (k, x) :: xs => by simp [erF, whollyKnownFields, whollyKnown_er x, whollyKnownFields_er xs]
end

@[simp] theorem isNull_er (a : Val) : (er a).isNull = a.isNull := by cases a <;> simp [er, isNull]
@[simp] theorem isKnown_er (a : Val) : (er a).isKnown = a.isKnown := by cases a <;> simp [er, isKnown]

mutual
theorem er_unmarkDeep : ∀ a : Val, er (unmarkDeep a) = er a
  | .unk _ _ | .null _ _ | .str _ _ | .num _ _ | .bool _ _ => by simp [er, unmarkDeep, setFl]
  | .list _ _ xs => by simp [er, unmarkDeep, erL_unmarkDeep xs]
  | .tuple _ xs => by simp [er, unmarkDeep, erL_unmarkDeep xs]
  | .map _ _ xs => by simp [er, unmarkDeep, erF_unmarkDeep xs]
  | .object _ xs => by simp [er, unmarkDeep, erF_unmarkDeep xs]
theorem erL_unmarkDeep : ∀ xs : List Val, erL (unmarkDeepList xs) = erL xs
  | [] => by simp [erL, unmarkDeepList]
  | x :: xs => by simp [erL, unmarkDeepList, er_unmarkDeep x, erL_unmarkDeep xs]
theorem erF_unmarkDeep : ∀ xs : List (String × Val), erF (unmarkDeepFields xs) = erF xs
  | [] => by simp [erF, unmarkDeepFields]
  | (k, x) :: xs => by simp [erF, unmarkDeepFields, er_unmarkDeep x, erF_unmarkDeep xs]
end

theorem er_setFl (a : Val) (f : Fl) : er (a.setFl f) = er a := by cases a <;> simp [er, setFl]
theorem er_withFl (a : Val) (f : Fl) : er (a.withFl f) = er a := er_setFl _ _

theorem eqErased_unmarkDeep (a b : Val) : eqErased (unmarkDeep a) (unmarkDeep b) = eqErased a b := by
  rw [← eqErased_er_left, ← eqErased_er_right, er_unmarkDeep, er_unmarkDeep, eqErased_er_left, eqErased_er_right]

theorem eqErasedList_unmarkDeep : ∀ (xs ys : List Val),
    eqErasedList (xs.map unmarkDeep) (ys.map unmarkDeep) = eqErasedList xs ys
  | [], [] => by simp [eqErasedList]
  | [], _ :: _ => by simp [eqErasedList]
  | _ :: _, [] => by simp [eqErasedList]
  | x :: xs, y :: ys => by simp [eqErasedList, eqErased_unmarkDeep, eqErasedList_unmarkDeep xs ys]

/-- tests on argument lists that do not look at flags -/
theorem any_eqErased (p : Val → Bool) (hp : ∀ a, p (er a) = p a) : ∀ (xs ys : List Val),
    eqErasedList xs ys = true → xs.any p = ys.any p
  | [], [], _ => rfl
  | [], _ :: _, h => by simp [eqErasedList] at h
  | _ :: _, [], h => by simp [eqErasedList] at h
  | x :: xs, y :: ys, h => by
    simp only [eqErasedList, Bool.and_eq_true] at h
    have := er_eq_of_eqErased x y h.1
    simp only [List.any_cons, any_eqErased p hp xs ys h.2]
    rw [← hp x, ← hp y, this]

@[simp] theorem unmark_g (a : Fl) : a.unmark.g = a.g := rfl
@[simp] theorem none_g : Fl.none.g = false := rfl

theorem lookupKey_append {α : Type} (x : String) (a b : List (String × α)) :
    lookupKey x (a ++ b) = match lookupKey x a with | some v => some v | none => lookupKey x b := by
  induction a with
  | nil => rfl
  | cons p rest ih =>
    obtain ⟨k, v⟩ := p
    simp only [List.cons_append, lookupKey]
    split
    · rfl
    · exact ih

theorem lookupKey_eq_none {α : Type} (k : String) (K : List (String × α)) (h : k ∉ K.map (·.1)) :
    lookupKey k K = none := by
  induction K with
  | nil => rfl
  | cons p rest ih =>
    obtain ⟨k', v⟩ := p
    simp only [List.map_cons, List.mem_cons, not_or] at h
    have : (k == k') = false := by simpa using h.1
    simp only [lookupKey, this, Bool.false_eq_true, if_false, ih h.2]

theorem lookupKey_ne_none_of_mem {α : Type} (x : String) (a : List (String × α)) (h : x ∈ a.map (·.1)) :
    lookupKey x a ≠ none := by
  induction a with
  | nil => simp at h
  | cons p rest ih =>
    obtain ⟨k, v⟩ := p
    simp only [lookupKey]
    split
    · simp
    · rename_i hne
      simp only [List.map_cons, List.mem_cons] at h
      rcases h with h | h
      · simp [h] at hne
      · exact ih h

theorem withFl_marked (v : Val) (f : Fl) (h : f.m = true) : (v.withFl f).isMarked = true := by
  cases v <;> simp [Val.withFl, Val.setFl, Val.isMarked, Val.fl, Fl.join, h]

end HclModel.Proofs
