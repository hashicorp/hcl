import Proofs.JBodyAgree
/-!
C03, schema violations at one level: when processing the JSON rendering of an admissible layout reports an
error, compared with processing the native body of the configuration denoted.
-/
namespace HclModel.JBody.Proofs
open HclModel HclModel.Body HclModel.Body.Proofs

mutual
/-- `JBody.fullLabels` of `Props/C03.lean`, which imports this file (`fullLabels_eq` there): none of the first `k`
    label levels under a block type name is empty -/
def fullLabels : Nat → UnderL → Bool
  | 0, _ => true
  | k+1, .labelsObj part => !part.isEmpty && fullLabelProps k part
  | k+1, .labelsArr parts => !parts.flatten.isEmpty && fullLabelParts k parts
  | _+1, _ => false
def fullLabelParts (k : Nat) : List (List (String × UnderL)) → Bool
  | [] => true
  | p :: rest => fullLabelProps k p && fullLabelParts k rest
def fullLabelProps (k : Nat) : List (String × UnderL) → Bool
  | [] => true
  | (_, u) :: rest => fullLabels k u && fullLabelProps k rest
end

/-- a condition on every block-type property, written as `noEmptyUnknown` and `noEmptyLabels` (Props/C03) write it -/
theorem all_blocks_iff (f : String → UnderL → Bool) (ps : List PropL) :
    (ps.all fun p => match p with
      | .blocks t u => f t u
      | _ => true) = true ↔ ∀ t u, PropL.blocks t u ∈ ps → f t u = true := by
  rw [List.all_eq_true]
  constructor
  · intro h t u hm; exact h _ hm
  · intro h p hp
    cases p with
    | blocks t u => exact h t u hp
    | comment v => rfl
    | attr n v => rfl

theorem fullLabelProps_all (k : Nat) (part : List (String × UnderL)) :
    fullLabelProps k part = part.all fun p => fullLabels k p.2 := by
  induction part with
  | nil => rfl
  | cons p rest ih => simp [fullLabelProps, ih]

theorem fullLabelParts_eq (k : Nat) (parts : List (List (String × UnderL))) :
    fullLabelParts k parts = fullLabelProps k parts.flatten := by
  induction parts with
  | nil => rfl
  | cons p rest ih => simp [fullLabelParts, fullLabelProps_all, ih]

theorem fullLabels_level {u : UnderL} (h : isLevel u = true) (k : Nat) :
    fullLabels (k+1) u = (!(labelLevel u).isEmpty && (labelLevel u).all fun p => fullLabels k p.2) := by
  cases u with
  | none => rfl
  | one ps => cases h
  | many bs => cases h
  | labelsObj part => simp only [fullLabels, labelLevel, fullLabelProps_all]
  | labelsArr parts => simp only [fullLabels, labelLevel, fullLabelParts_eq, fullLabelProps_all]

theorem unpack_errs (cst : STree) (t : String) : ∀ (k : Nat) (labels : List String) (u : UnderL),
    admUnder cst k u = true → ((unpackBlock t k labels (renderUnder u)).2 = [] ↔ fullLabels k u = true)
  | 0, labels, u, _ => by cases u <;> simp [renderUnder, unpackBlock, fullLabels]
  | k+1, labels, u, h => by
    rw [admUnder_succ, Bool.and_eq_true, List.all_eq_true] at h
    rw [unpack_level h.1, fullLabels_level h.1]
    cases (labelLevel u).isEmpty with
    | true => simp
    | false =>
      simp only [Bool.false_eq_true, if_false, List.flatMap_eq_nil_iff, Bool.not_false, Bool.true_and,
        List.all_eq_true]
      exact forall_congr' fun p => imp_congr_right fun hp => unpack_errs cst t k _ p.2 (h.2 p hp)

theorem mem_used (s : Schema) (ps : List PropL) {p : PropL} (hp : p ∈ ps) :
    propName p ∈ (((ps.filter (usedP s)).map propName).reverse) ↔ usedP s p = true := by
  simp only [List.mem_reverse, List.mem_map, List.mem_filter]
  constructor
  · rintro ⟨q, ⟨_, hq⟩, e⟩
    simpa [usedP, e] using hq
  · intro h; exact ⟨p, ⟨hp, h⟩, rfl⟩

theorem extra_nil_iff (s : Schema) (ps : List PropL) :
    ((renderProps ps).filter fun p => p.1 != "//" &&
        !((((ps.filter (usedP s)).map propName).reverse.contains p.1))).map
          (fun p => JErr.extraneous p.1) = [] ↔
      ∀ p ∈ ps, propName p = "//" ∨ usedP s p = true := by
  simp only [List.map_eq_nil_iff, List.filter_eq_nil_iff, Bool.and_eq_true, bne_iff_ne, ne_eq,
    Bool.not_eq_true', not_and, Bool.not_eq_false, List.contains_iff_mem]
  -- a condition on names, and the rendering has the names of the layout
  refine (List.forall_mem_map (f := fun q : String × JV => q.1) (P := fun n => ¬n = "//" → n ∈ _)).symm.trans ?_
  rw [renderProps_names, List.forall_mem_map]
  exact forall_congr' fun p => imp_congr_right fun hp => by
    rw [mem_used s ps hp]; exact Decidable.or_iff_not_imp_left.symm

/-- an admissible property is not extraneous iff the schema has its name: arguments as an attribute, … -/
theorem used_attr {st : STree} {n : String} {v : JV} (hp : PropAdm st (.attr n v)) :
    (propName (.attr n v) = "//" ∨ usedP st.schema (.attr n v) = true) ↔
      ∃ as ∈ st.schema.attrs, as.name = n := by
  simp only [propName, renderProp, (hp.attr n v rfl).1, false_or, usedP_attr hp, List.any_eq_true, beq_iff_eq]

/-- … block-type properties as a block type -/
theorem used_blocks {st : STree} {t : String} {u : UnderL} (hp : PropAdm st (.blocks t u)) :
    (propName (.blocks t u) = "//" ∨ usedP st.schema (.blocks t u) = true) ↔
      st.schema.blocks.any (·.type == t) = true := by
  simp only [propName, renderProp, (hp.blocks t u rfl).1, false_or, usedP_blocks hp, wanted_isSome]

theorem used_iff {st : STree} {ps : List PropL} (hP : ∀ p ∈ ps, PropAdm st p) :
    (∀ p ∈ ps, propName p = "//" ∨ usedP st.schema p = true) ↔
      (∀ p ∈ denoteAttrs ps, ∃ as ∈ st.schema.attrs, as.name = p.1) ∧
      (∀ t u, PropL.blocks t u ∈ ps → st.schema.blocks.any (·.type == t) = true) := by
  constructor
  · intro h
    exact ⟨fun p hp => (used_attr (hP _ (mem_denoteAttrs.1 hp))).1 (h _ (mem_denoteAttrs.1 hp)),
      fun t u hm => (used_blocks (hP _ hm)).1 (h _ hm)⟩
  · rintro ⟨ha, hb⟩ p hp
    cases p with
    | comment v => exact Or.inl rfl
    | attr n v => exact (used_attr (hP _ hp)).2 (ha (n, v) (mem_denoteAttrs.2 hp))
    | blocks t u => exact (used_blocks (hP _ hp)).2 (hb t u hp)

theorem missing_nil_iff (s : Schema) (D : List (String × JV)) :
    (s.attrs.filter fun as => as.required &&
        !((D.filter (fun p => s.attrs.any (·.name == p.1))).any (·.1 == as.name))).map
          (fun as => JErr.missingRequired as.name) = [] ↔
      ∀ as ∈ s.attrs, as.required = true → (findAttr as.name D).isSome = true := by
  simp only [List.map_eq_nil_iff, List.filter_eq_nil_iff, Bool.and_eq_true, Bool.not_eq_true', not_and,
    Bool.not_eq_false]
  apply forall_congr'; intro as
  apply imp_congr_right; intro has
  apply imp_congr_right; intro _
  rw [findAttr_isSome_iff]
  simp only [List.any_eq_true, List.mem_filter, beq_iff_eq]
  constructor
  · rintro ⟨p, ⟨hp, _⟩, e⟩; exact ⟨p, hp, e⟩
  · rintro ⟨p, hp, e⟩; exact ⟨p, ⟨hp, ⟨as, has, e.symm⟩⟩, e⟩

/-- the native processing accepts the blocks of a layout iff the schema knows the type of every
    block-type property that writes a block -/
theorem native_blocks_ok {st : STree} (hst : st.wf = true) {ps : List PropL} (hadm : admProps st ps = true) :
    (∀ blk ∈ (flatBlocks ps).map toN,
        ∃ bs, wanted st.schema blk.type = some bs ∧ blk.labels.length = bs.labelCount) ↔
      ∀ t u, PropL.blocks t u ∈ ps → flatUnder t [] u = [] ∨ st.schema.blocks.any (·.type == t) = true := by
  constructor
  · intro h t u hm
    cases hfu : flatUnder t [] u with
    | nil => exact Or.inl rfl
    | cons fb rest =>
      have hf : fb ∈ flatUnder t [] u := hfu ▸ List.mem_cons_self
      obtain ⟨bs, hw, _⟩ := h (toN fb) (List.mem_map_of_mem (mem_flatBlocks.2 ⟨t, u, hm, hf⟩))
      rw [show (toN fb).type = t from flatUnder_type t [] u fb hf] at hw
      rw [← wanted_isSome, hw]; exact Or.inr rfl
  · intro h blk hblk
    obtain ⟨fb, hfb, rfl⟩ := List.mem_map.1 hblk
    obtain ⟨t, u, hm, hf⟩ := mem_flatBlocks.1 hfb
    rcases h t u hm with h0 | hk
    · rw [h0] at hf; cases hf
    · rw [← wanted_isSome, ← flatUnder_type t [] u fb hf, Option.isSome_iff_exists] at hk
      obtain ⟨bs, hw⟩ := hk
      obtain ⟨_, _, _, hlen, _⟩ := adm_flatBlocks hst hadm hfb hw
      exact ⟨bs, hw, hlen⟩

/-- under the block types the schema knows, `unpackBlock` reports no error iff no label level is empty -/
theorem unpackErrs_nil_iff {st : STree} (hst : st.wf = true) {ps : List PropL} (hP : ∀ p ∈ ps, PropAdm st p) :
    unpackErrs st.schema ps = [] ↔
      ∀ t u, PropL.blocks t u ∈ ps → ∀ bs, st.schema.blocks.find? (·.type == t) = some bs →
        fullLabels bs.labelCount u = true := by
  have hblock : ∀ t u, PropL.blocks t u ∈ ps → ∀ bs, wanted st.schema t = some bs →
      (propErrs st.schema (.blocks t u) = [] ↔ fullLabels bs.labelCount u = true) := fun t u hm bs hw => by
    obtain ⟨cst, _, _, hu⟩ := adm_block hst hw ((hP _ hm).blocks t u rfl).2.2
    simp only [propErrs, hw]
    exact unpack_errs cst t _ [] u hu
  simp only [unpackErrs, List.flatMap_eq_nil_iff, ← wanted_eq_find? _ _ (wf_nodup hst).2]
  constructor
  · intro h t u hm bs hw
    exact (hblock t u hm bs hw).1 (h _ hm)
  · intro h p hp
    cases p with
    | blocks t u =>
      cases hw : wanted st.schema t with
      | none => simp only [propErrs, hw]
      | some bs => exact (hblock t u hp bs hw).2 (h t u hp bs hw)
    | comment v => rfl
    | attr n v => rfl

/-- **Exact comparison of the error behaviours.**  For an admissible layout, processing the JSON value is
    error-free exactly when processing the native body of the configuration denoted is error-free and the
    layout has neither an empty property of an unknown block type nor an empty label level. -/
theorem json_errs_nil_iff (st : STree) (L : BodyL) (hst : st.wf = true) (hL : admBody st L = true) :
    ((⟨renderBody L, []⟩ : JBodyV).content st.schema).2 = [] ↔
      (((denoteBody L).native.content st.schema).2 = [] ∧
        (∀ t u, PropL.blocks t u ∈ bodyProps L →
          st.schema.blocks.any (·.type == t) = true ∨ denoteUnder t [] u ≠ []) ∧
        (∀ t u, PropL.blocks t u ∈ bodyProps L → ∀ bs, st.schema.blocks.find? (·.type == t) = some bs →
          fullLabels bs.labelCount u = true)) := by
  have hadm := adm_props st L hL
  have hP := (admProps_iff st _).1 hadm
  rw [content_rendered st L hst hL, Body.Proofs.content_error_iff _ _ (native_fresh st L hL) (wf_nodup hst),
    native_attrs, native_blocks, native_blocks_ok hst hadm]
  simp only [List.append_eq_nil_iff, unpackErrs_nil_iff hst hP, missing_nil_iff, extra_nil_iff, used_iff hP, and_assoc]
  -- a block-type property the schema does not know is an error in JSON, natively only if it writes a block
  constructor
  · rintro ⟨hU, hM, hA, hB⟩
    exact ⟨hM, fun t u hm => Or.inr (hB t u hm), hA, fun t u hm => Or.inl (hB t u hm), hU⟩
  · rintro ⟨hM, hN, hA, hK, hU⟩
    refine ⟨hU, hM, hA, fun t u hm => (hK t u hm).elim id fun hne => (hN t u hm).resolve_left fun h0 => hne ?_⟩
    rw [denoteUnder_eq, h0]; rfl

/-- a schema violation in the native body is a schema violation in the JSON body -/
theorem violation_native_json (st : STree) (L : BodyL) (hst : st.wf = true) (hL : admBody st L = true)
    (h : ((denoteBody L).native.content st.schema).2 ≠ []) :
    ((⟨renderBody L, []⟩ : JBodyV).content st.schema).2 ≠ [] :=
  fun hj => h ((json_errs_nil_iff st L hst hL).1 hj).1

end HclModel.JBody.Proofs
