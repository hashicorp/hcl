import Proofs.MarksSplat
/-!
C06: function calls in two runs: arguments equal up to flags give related results, arguments that differ carry
the mark (`callFunc_rel`); the converted arguments (`convertArgs_rel`); the expansions of the final argument (`ExpRel`).
-/
namespace HclModel.Proofs
open Val

theorem callFunc_marked (spec : FuncSpec) (args : List Val) (v : Val) (hm : hasMarkDeepList args = true)
    (h : callFunc spec args = .ok v) : v.fl.m = true := by
  obtain ⟨-, r, rfl, -⟩ := callFunc_ok h
  simp [← hasMarkDeepList_eq, hm]

theorem callFunc_rel {F : Funcs} (hF : LawfulFuncs F) {fn : String} {spec : FuncSpec} (hfn : F fn = some spec)
    (args args' : List Val) (v v' : Val) (hr : relL args args' = true)
    (h1 : callFunc spec args = .ok v) (h2 : callFunc spec args' = .ok v') : relV v v' = true := by
  cases he : eqErasedList args args'
  · have := rel_differ_markedL args args' hr he
    exact relV_top (callFunc_marked spec args v this.1 h1) (callFunc_marked spec args' v' this.2 h2)
  · -- equal up to flags: the two calls take the same way, on arguments that are equal once unmarked
    have hu : eqErasedAll (args.map unmarkDeep) (args'.map unmarkDeep) = true := by
      rw [eqErasedAll_eq, eqErasedList_unmarkDeep]; exact he
    obtain ⟨-, r, rfl, hr1⟩ := callFunc_ok h1
    obtain ⟨-, r', rfl, hr2⟩ := callFunc_ok h2
    rw [← any_eqErased (fun a => a.typeOf == .dyn) (by intro a; simp [typeOf_er]) args args' he,
      ← any_eqErased (fun a => !a.isKnown) (by intro a; simp) args args' he] at hr2
    apply relV_withFl
    by_cases hd : (args.any fun a => a.typeOf == .dyn) = true
    · rw [if_pos hd] at hr1 hr2; rw [hr1, hr2]; exact relV_refl _
    · rw [if_neg hd] at hr1 hr2
      by_cases hk : (args.any fun a => !a.isKnown) = true
      · rw [if_pos hk] at hr1 hr2; rw [hr1, hr2, hF.retTy_erased fn spec hfn _ _ hu]; exact relV_refl _
      · rw [if_neg hk] at hr1 hr2
        have := hF.impl_erased fn spec hfn _ _ hu
        rw [hr1, hr2] at this
        exact relV_of_eqErased _ _ this.1

theorem convertArgs_fl (spec : FuncSpec) : ∀ (vs : List Val) (ps : List Ty),
    (convertArgs spec vs ps).1.map Val.fl = vs.map Val.fl
  | [], _ => by simp [convertArgs]
  | v :: vs, ps => by
    rw [convertArgs_cons]
    cases hp : (nextParam spec ps).1 with
    | none => simp [convertArgs_fl spec vs]
    | some t =>
      simp only []
      cases c : tryConvert v t with
      | ok x => simp [convertArgs_fl spec vs, tryConvert_fl c]
      | error d => simp [convertArgs_fl spec vs]

theorem convertArgs_rel (spec : FuncSpec) : ∀ (vs vs' : List Val) (ps : List Ty), relL vs vs' = true →
    (convertArgs spec vs ps).2 = [] → (convertArgs spec vs' ps).2 = [] →
    relL (convertArgs spec vs ps).1 (convertArgs spec vs' ps).1 = true
  | [], [], _, _, _, _ => by simp [convertArgs, relL]
  | [], _ :: _, _, h, _, _ => by simp [relL] at h
  | _ :: _, [], _, h, _, _ => by simp [relL] at h
  | v :: vs, v' :: vs', ps, h, h1, h2 => by
    simp only [relL, Bool.and_eq_true] at h
    rw [convertArgs_cons] at h1 h2 ⊢
    rw [convertArgs_cons]
    cases hp : (nextParam spec ps).1 with
    | none =>
      simp only [hp] at h1 h2 ⊢
      simp [relL, h.1, convertArgs_rel spec vs vs' _ h.2 h1 h2]
    | some t =>
      simp only [hp] at h1 h2 ⊢
      cases c1 : tryConvert v t with
      | error d => simp [c1] at h1
      | ok x =>
        cases c2 : tryConvert v' t with
        | error d => simp [c2] at h2
        | ok y =>
          simp only [c1, c2] at h1 h2 ⊢
          simp [relL, tryConvert_rel h.1 c1 c2, convertArgs_rel spec vs vs' _ h.2 h1 h2]

theorem any_top_of_map_fl {xs ys : List Val} (h : xs.map Val.fl = ys.map Val.fl) :
    xs.any (fun v => v.fl.m) = ys.any (fun v => v.fl.m) := by
  have : ∀ zs : List Val, zs.any (fun v => v.fl.m) = (zs.map Val.fl).any (fun f => f.m) := by
    intro zs; simp [List.any_map]; rfl
  rw [this xs, this ys, h]

/-- how the expansions of the final argument in the two runs correspond -/
def ExpRel (x x' : Except Out (List Val × List Diag)) : Prop :=
  match x, x' with
  | .error o, .error o' => o.2 = [] → o'.2 = [] → relV o.1 o'.1 = true
  | .ok (xs, _), .ok (xs', _) =>
    relL xs xs' = true ∨ (xs ≠ [] ∧ xs' ≠ [] ∧ (∀ x ∈ xs, x.fl.m = true) ∧ ∀ x ∈ xs', x.fl.m = true)
  | .error o, .ok _ => o.2 ≠ []
  | .ok _, .error o => o.2 ≠ []

theorem relC_expandElems {a b : Val} (h : relC a b = true) : relL (expandElems a) (expandElems b) = true := by
  rw [expandElems_eq, expandElems_eq]; exact relC_splatItems h

theorem expandOut_ExpRel (eo eo' : Out) (hr : relV eo.1 eo'.1 = true) (hs : shapeEq eo.1 eo'.1)
    (hemp : bm eo.1 eo'.1 → (expandElems eo.1 = [] ↔ expandElems eo'.1 = [])) :
    ExpRel (expandOut eo) (expandOut eo') := by
  obtain ⟨ev, ed⟩ := eo
  obtain ⟨ev', ed'⟩ := eo'
  simp only [] at hr hs hemp
  rcases expandOut_cases ev ed with ⟨ds, e1, n1⟩ | ⟨e1, -, k1, d1⟩ <;>
    rcases expandOut_cases ev' ed' with ⟨ds', e2, n2⟩ | ⟨e2, -, k2, d2⟩ <;> rw [e1, e2]
  · exact fun _ _ => relV_refl _
  · -- a silent error on one side only contradicts the equal shapes
    intro h
    have := (n1 h).2.2
    rw [hs.1, hs.2, k2, d2] at this
    simp at this
  · intro h
    have := (n2 h).2.2
    rw [← hs.1, ← hs.2, k1, d1] at this
    simp at this
  · simp only [ExpRel]
    by_cases hb : bm ev ev'
    · by_cases he : expandElems ev = []
      · left; rw [he, (hemp hb).1 he]; simp [relL]
      · right
        refine ⟨by simpa using he, by simpa using (fun h => he ((hemp hb).2 h)), ?_, ?_⟩
        · intro x hx; simp only [List.mem_map] at hx; obtain ⟨y, _, rfl⟩ := hx; simp [hb.1]
        · intro x hx; simp only [List.mem_map] at hx; obtain ⟨y, _, rfl⟩ := hx; simp [hb.2]
    · exact .inl (relL_map _ _ (relC_expandElems (relC_of_not_bm hr hb)) fun _ _ h => relV_withFl h _ _)

theorem relOuts_fst {outs outs' : List Out} (h : relOuts outs outs') :
    relL (outs.map (·.1)) (outs'.map (·.1)) = true := by
  induction h with
  | nil => simp [relL]
  | cons hab _ ih => simp [relL, hab, ih]

theorem callOut_rel {F : Funcs} (hF : LawfulFuncs F) {fn : String} {spec : FuncSpec} (hfn : F fn = some spec)
    {x x' : Except Out (List Val × List Diag)} {outs outs' : List Out}
    (hro : (∀ o, x ≠ .error o) → (∀ o, x' ≠ .error o) → relOuts outs outs')
    (hx : ExpRel x x') (h1 : (callOut spec x outs).2 = []) (h2 : (callOut spec x' outs').2 = []) :
    relV (callOut spec x outs).1 (callOut spec x' outs').1 = true := by
  cases x with
  | error o =>
    cases x' with
    | error o' => exact hx h1 h2
    | ok p => exact absurd h1 hx
  | ok p =>
    obtain ⟨extra, ed⟩ := p
    cases x' with
    | error o' => exact absurd h2 hx
    | ok p' =>
      obtain ⟨extra', ed'⟩ := p'
      have hro := hro (by intro o h; cases h) (by intro o h; cases h)
      obtain ⟨-, -, c1, v, f1, e1⟩ := callOut_clean h1
      obtain ⟨-, -, c2, v', f2, e2⟩ := callOut_clean h2
      rw [e1, e2]
      simp only [ExpRel] at hx
      rcases hx with hx | ⟨n1, n2, m1, m2⟩
      · have hargs : relL (outs.map (·.1) ++ extra) (outs'.map (·.1) ++ extra') = true :=
          relL_append (relOuts_fst hro) hx
        exact callFunc_rel hF hfn _ _ v v' (convertArgs_rel spec _ _ _ hargs c1 c2) f1 f2
      · have mk : ∀ (outs : List Out) (extra : List Val), extra ≠ [] → (∀ x ∈ extra, x.fl.m = true) →
            hasMarkDeepList (convertArgs spec (outs.map (·.1) ++ extra) spec.params).1 = true := by
          intro outs extra hne hm
          apply hasMarkDeepList_of_top
          rw [any_top_of_map_fl (convertArgs_fl spec _ _)]
          cases extra with
          | nil => exact absurd rfl hne
          | cons x xs => simp [hm x (by simp)]
        exact relV_top (callFunc_marked spec _ v (mk outs extra n1 m1) f1)
          (callFunc_marked spec _ v' (mk outs' extra' n2 m2) f2)

end HclModel.Proofs
