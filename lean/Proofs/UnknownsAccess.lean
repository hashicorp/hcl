import Proofs.UnknownsBin
import Proofs.ValueAccess
/-!
`getAttr` and `index`: known-in-known-out, well-typedness, monotonicity for `conc`.
-/
namespace HclModel.Proofs.Unk
open Val

theorem found_known {kvs : List (String × Val)} {s : String} {f : Fl} {site : String}
    (hk : whollyKnownFields kvs = true) (h : (found (lookupKey s kvs) f site).2 = []) :
    whollyKnown (found (lookupKey s kvs) f site).1 = true := by
  obtain ⟨x, hx, e⟩ := found_ok h
  rw [e, whollyKnown_withFl]
  exact whollyKnownFields_lookup hk hx

theorem elemAt_known {xs : List Val} {q : Rat} {f : Fl} (hk : whollyKnownList xs = true)
    (h : (elemAt xs q f).2 = []) : whollyKnown (elemAt xs q f).1 = true := by
  obtain ⟨i, x, _, hx, e⟩ := elemAt_ok h
  rw [e, whollyKnown_withFl]
  exact whollyKnownList_mem hk x (List.mem_of_getElem? hx)

theorem getAttr_known {obj : Val} {name : String} (hk : whollyKnown obj = true)
    (h : (getAttr obj name).2 = []) : whollyKnown (getAttr obj name).1 = true := by
  cases obj with
  | map f t kvs => rw [getAttr_map] at h ⊢; exact found_known hk h
  | object f kvs => rw [getAttr_object] at h ⊢; exact found_known hk h
  | unk => cases hk
  | _ => cases h

theorem wfVal_dynVal : wfVal Val.dynVal = true := rfl
theorem whollyKnown_dynVal_withFl (f : Fl) : wfVal (Val.dynVal.withFl f) = true := rfl

theorem Elem_wf {x coll : Val} (h : Elem x coll) (hk : wfVal coll = true) : wfVal x = true := by
  cases coll <;> simp only [Elem, wfVal] at h hk
  · exact (wfElems_mem hk x h).2
  · obtain ⟨k, h⟩ := h; exact (wfElemsF_lookup hk h).2
  · exact wfList_mem hk x h
  · obtain ⟨k, h⟩ := h; exact wfFields_lookup hk h

/-- whatever an access yields is well-typed: an element of a well-typed collection, or a leaf -/
theorem _root_.HclModel.Proofs.Access.wf {coll : Val} {K : Fl → Prop} {o : Out} (h : Access coll K o)
    (hw : wfVal coll = true) : wfVal o.1 = true := by
  cases h with
  | fail | unk | dyn => rfl
  | elem x g hx => rw [wfVal_withFl]; exact Elem_wf hx hw

theorem getAttr_wf {obj : Val} {name : String} (hw : wfVal obj = true) :
    wfVal (getAttr obj name).1 = true := (getAttr_access obj name).wf hw

theorem conc_dynVal_withFl (v : Val) (f : Fl) : conc v (Val.dynVal.withFl f) = true := by
  simp [dynVal, withFl, setFl, conc_unk]

theorem typeOf_ne_dyn {v : Val} (hk : v.isKnown = true) (hn : v.isNull = false) : v.typeOf ≠ .dyn := by
  cases v <;> simp_all [isKnown, isNull, typeOf]

theorem conc_typeOf {v a : Val} {t : Ty} (h : conc v a = true) (ht : a.typeOf = .list t ∨ a.typeOf = .map t) :
    v.typeOf = a.typeOf := by
  cases a <;> simp only [typeOf, reduceCtorEq, or_self] at ht
  · rcases conc_unk_iff.mp h with rfl | h'
    · simp at ht
    · exact h'
  · obtain ⟨f, rfl⟩ := conc_null_inv h; rfl
  · obtain ⟨f, xs, rfl, _⟩ := conc_list_inv h; rfl
  · obtain ⟨f, xs, rfl, _⟩ := conc_map_inv h; rfl

theorem found_conc {o oa : Option Val} {f g : Fl} {site : String}
    (ho : match o, oa with | some x, some y => conc x y = true | none, none => True | _, _ => False)
    (h : (found o f site).2 = []) : conc (found o f site).1 (found oa g site).1 = true := by
  obtain ⟨x, rfl, _⟩ := found_ok h
  cases oa with
  | none => exact ho.elim
  | some y => simpa [found] using ho

theorem elemAt_conc {xs ys : List Val} {q : Rat} {f g : Fl} (hl : concL xs ys = true)
    (h : (elemAt xs q f).2 = []) : conc (elemAt xs q f).1 (elemAt ys q g).1 = true := by
  obtain ⟨i, _, hi, _, _⟩ := elemAt_ok h
  rw [elemAt_eq hi] at h ⊢
  rw [elemAt_eq hi]
  exact found_conc (concL_getElem? hl i) h

theorem getAttr_conc {obj obja : Val} {name : String} (hc : conc obj obja = true) (hw : wfVal obj = true)
    (h : (getAttr obj name).2 = []) (ha : (getAttr obja name).2 = []) :
    conc (getAttr obj name).1 (getAttr obja name).1 = true := by
  cases obja with
  | unk g T =>
    -- the abstract result is an unknown of the attribute's type, which the concrete attribute has
    have hT := conc_unk_iff.mp hc
    rw [getAttr_unk] at ha ⊢
    cases T with
    | dyn => exact conc_dynVal_withFl _ _
    | object fs =>
      have ht : obj.typeOf = .object fs := hT.resolve_left (by simp)
      cases hl : lookupKey name fs <;> simp only [hl] at ha ⊢
      · cases ha
      · apply conc_of_type
        rcases shape_object ht with ⟨f, rfl⟩ | ⟨f, rfl⟩ | ⟨f, kvs, rfl, rfl⟩
        · rw [getAttr_unk]; simp only [hl]; rfl
        · cases h
        · rw [getAttr_object] at h ⊢
          obtain ⟨x, hx, e⟩ := found_ok h
          rw [lookupKey_typeOfFields, hx] at hl
          rw [e, typeOf_withFl]
          exact Option.some.inj hl
    | map t =>
      have ht : obj.typeOf = .map t := hT.resolve_left (by simp)
      apply conc_of_type
      rcases shape_map ht with ⟨f, rfl⟩ | ⟨f, rfl⟩ | ⟨f, kvs, rfl⟩
      · rfl
      · cases h
      · rw [getAttr_map] at h ⊢
        obtain ⟨x, hx, e⟩ := found_ok h
        rw [e, typeOf_withFl]
        exact (wfElemsF_lookup hw hx).1
    | _ => cases ha
  | map g t kvsa =>
    obtain ⟨f, kvs, rfl, hl⟩ := conc_map_inv hc
    rw [getAttr_map] at h ⊢
    rw [getAttr_map]
    exact found_conc (concF_lookup hl name) h
  | object g kvsa =>
    obtain ⟨f, kvs, rfl, hl⟩ := conc_object_inv hc
    rw [getAttr_object] at h ⊢
    rw [getAttr_object]
    exact found_conc (concF_lookup hl name) h
  | _ => cases ha

/-- a key after its conversion to `want`: the number or string, or an unknown if the key was one -/
inductive KeyOf (key : Val) : Ty → Val → Prop
  | unk (f : Fl) (t : Ty) : key.isKnown = false → KeyOf key t (.unk f t)
  | num (f : Fl) (q : Rat) : KeyOf key .num (.num f q)
  | str (f : Fl) (s : String) : KeyOf key .str (.str f s)

theorem keyOf_of_tryConvert {key k : Val} {want : Ty} (hw : want = .num ∨ want = .str) (hn : key.isNull = false)
    (h : tryConvert key want = .ok k) : KeyOf key want k := by
  obtain ⟨p1, p2, _, p4⟩ := convert_convP key want k (tryConvert_ok_iff.mp h)
  rcases hw with rfl | rfl
  · rcases shape_num (p4 rfl).1 with ⟨f, rfl⟩ | ⟨f, rfl⟩ | ⟨f, q, rfl⟩
    · exact .unk f _ p1.symm
    · cases p2.trans hn
    · exact .num f q
  · rcases shape_str (p4 rfl).1 with ⟨f, rfl⟩ | ⟨f, rfl⟩ | ⟨f, s, rfl⟩
    · exact .unk f _ p1.symm
    · cases p2.trans hn
    · exact .str f s

theorem tryConvert_key_conc {key keya k ka : Val} {t : Ty} (ht : t = .num ∨ t = .str) (hk : conc key keya = true)
    (h1 : tryConvert key t = .ok k) (h2 : tryConvert keya t = .ok ka) : conc k ka = true :=
  convert_conc keya key t k ka hk (by rcases ht with rfl | rfl <;> rfl) (tryConvert_ok_iff.mp h1)
    (tryConvert_ok_iff.mp h2)

theorem index_known {coll key : Val} (h : (index true coll key).2 = []) (hc : whollyKnown coll = true)
    (hk : whollyKnown key = true) : whollyKnown (index true coll key).1 = true := by
  obtain ⟨nc, nk⟩ := index_null_diag h
  have kk := isKnown_of_whollyKnown hk
  have hd : ¬(key.typeOf = .dyn ∨ coll.typeOf = .dyn) := by
    rintro (e | e)
    · exact typeOf_ne_dyn kk nk e
    · exact typeOf_ne_dyn (isKnown_of_whollyKnown hc) nc e
  obtain ⟨want, k, hw, c, e⟩ := index_at h hd
  rw [e] at h ⊢
  -- a known key converts to a number or a string, which selects an element of the known collection
  cases keyOf_of_tryConvert (keyTy_cases hw) nk c with
  | unk _ _ hu => rw [kk] at hu; cases hu
  | num kf q =>
    cases coll with
    | list f t xs => exact elemAt_known hc h
    | tuple f xs => exact elemAt_known hc h
    | unk => cases hc
    | null => cases nc
    | _ => cases hw
  | str kf s =>
    cases coll with
    | map f t kvs => exact found_known hc h
    | object f kvs =>
      change (indexObj true (.object f kvs) (typeOfFields kvs) (.str kf s)).2 = [] at h
      change whollyKnown (indexObj true (.object f kvs) (typeOfFields kvs) (.str kf s)).1 = true
      rw [indexObj_object] at h ⊢
      exact found_known hc h
    | unk => cases hc
    | null => cases nc
    | _ => cases hw

theorem index_wf {kk : Bool} {coll key : Val} (hc : wfVal coll = true) : wfVal (index kk coll key).1 = true :=
  (index_access kk coll key).wf hc

theorem indexSeq_typeOf {coll key k : Val} {want t : Ty} (ht : coll.typeOf = .list t ∨ coll.typeOf = .map t)
    (hw : wfVal coll = true) (hk : KeyOf key want k) (h : (indexSeq coll k).2 = []) :
    typeOf (indexSeq coll k).1 = t := by
  rcases ht with ht | ht
  · rcases shape_list ht with ⟨f, rfl⟩ | ⟨f, rfl⟩ | ⟨f, xs, rfl⟩
    · cases hk <;> rfl
    · cases hk <;> rfl
    · cases hk with
      | num kf q =>
        obtain ⟨i, x, _, hx, e⟩ := elemAt_ok h
        change typeOf (elemAt xs q _).1 = t
        rw [e, typeOf_withFl]
        exact (wfElems_mem hw x (List.mem_of_getElem? hx)).1
      | unk | str => rfl
  · rcases shape_map ht with ⟨f, rfl⟩ | ⟨f, rfl⟩ | ⟨f, kvs, rfl⟩
    · cases hk <;> rfl
    · cases hk <;> rfl
    · cases hk with
      | str kf s =>
        obtain ⟨x, hx, e⟩ := found_ok h
        change typeOf (found (lookupKey s kvs) _ _).1 = t
        rw [e, typeOf_withFl]
        exact (wfElemsF_lookup hw hx).1
      | unk | num => rfl

theorem indexSeq_typeOf_tuple {coll : Val} {ts : List Ty} {f : Fl} {q : Rat} {i : Nat} {t : Ty}
    (ht : coll.typeOf = .tuple ts) (hn : coll.isNull = false) (hi : natIndex? q = some i) (hti : ts[i]? = some t)
    (h : (indexSeq coll (.num f q)).2 = []) : typeOf (indexSeq coll (.num f q)).1 = t := by
  rcases shape_tuple ht with ⟨f', rfl⟩ | ⟨f', rfl⟩ | ⟨f', xs, rfl, rfl⟩
  · simp [indexSeq, unkTupleAt, hi, hti, typeOf]
  · cases hn
  · obtain ⟨i', x, hi', hx, e⟩ := elemAt_ok h
    change typeOf (elemAt xs q _).1 = t
    cases hi.symm.trans hi'
    rw [e, typeOf_withFl]
    rw [typeOfList_getElem?, hx] at hti
    exact Option.some.inj hti

theorem indexObj_typeOf {coll : Val} {fs : List (String × Ty)} {f : Fl} {s : String} {t : Ty}
    (ht : coll.typeOf = .object fs) (hn : coll.isNull = false) (hl : lookupKey s fs = some t)
    (h : (indexObj true coll fs (.str f s)).2 = []) : typeOf (indexObj true coll fs (.str f s)).1 = t := by
  rcases shape_object ht with ⟨f', rfl⟩ | ⟨f', rfl⟩ | ⟨f', xs, rfl, rfl⟩
  · rw [indexObj_unk]; simp only [hl]; rfl
  · cases hn
  · rw [indexObj_object] at h ⊢
    obtain ⟨x, hx, e⟩ := found_ok h
    rw [lookupKey_typeOfFields, hx] at hl
    rw [e, typeOf_withFl]
    exact Option.some.inj hl

theorem conc_indexUnk {coll colla key k : Val} {want : Ty} (hc : conc coll colla = true) (hw : wfVal coll = true)
    (hk : KeyOf key want k) (h : (indexSeq coll k).2 = []) : conc (indexSeq coll k).1 (indexUnk colla).1 = true := by
  unfold indexUnk
  split
  · exact conc_dynVal_withFl _ _
  · rename_i t ht
    exact conc_of_type (indexSeq_typeOf (.inl ((conc_typeOf hc (.inl ht)).trans ht)) hw hk h)
  · rename_i t ht
    exact conc_of_type (indexSeq_typeOf (.inr ((conc_typeOf hc (.inr ht)).trans ht)) hw hk h)
  · exact conc_dynVal_withFl _ Fl.none

/-- Where the abstract run looks an element up, the concrete run looks up the corresponding one; everywhere else
    the abstract run yields `indexUnk`. -/
theorem indexSeq_conc {coll colla key keya k ka : Val} {want : Ty} (hc : conc coll colla = true)
    (hw : wfVal coll = true) (hn : coll.isNull = false) (hk : KeyOf key want k) (hka : KeyOf keya want ka)
    (hkk : conc k ka = true) (h : (indexSeq coll k).2 = []) (ha : (indexSeq colla ka).2 = []) :
    conc (indexSeq coll k).1 (indexSeq colla ka).1 = true := by
  have unk := conc_indexUnk hc hw hk h
  cases hka with
  | unk g t _ => rw [indexSeq_unk]; exact unk
  | num g q =>
    obtain ⟨f, rfl⟩ := conc_num_inv hkk
    cases colla with
    | list g' t ys => obtain ⟨f', xs, rfl, hl⟩ := conc_list_inv hc; exact elemAt_conc hl h
    | tuple g' ys => obtain ⟨f', xs, rfl, hl⟩ := conc_tuple_inv hc; exact elemAt_conc hl h
    | unk g' T =>
      cases T with
      | tuple ts =>
        obtain ⟨i, t, hi, hti, e⟩ := unkTupleAt_ok ha
        have ht : coll.typeOf = .tuple ts := (conc_unk_iff.mp hc).resolve_left (by simp)
        change conc _ (unkTupleAt ts q _).1 = true
        rw [e]
        exact conc_of_type (indexSeq_typeOf_tuple ht hn hi hti h)
      | _ => exact unk
    | _ => exact unk
  | str g s =>
    obtain ⟨f, rfl⟩ := conc_str_inv hkk
    cases colla with
    | map g' t ys => obtain ⟨f', xs, rfl, hl⟩ := conc_map_inv hc; exact found_conc (concF_lookup hl s) h
    | unk g' T => cases T <;> exact unk
    | _ => exact unk

theorem indexObj_conc {coll colla keya k ka : Val} {fs fsa : List (String × Ty)} (hc : conc coll colla = true)
    (hn : coll.isNull = false) (hfs : coll.typeOf = .object fs) (hfsa : colla.typeOf = .object fsa)
    (hka : KeyOf keya .str ka) (hkk : conc k ka = true)
    (h : (indexObj true coll fs k).2 = []) (ha : (indexObj true colla fsa ka).2 = []) :
    conc (indexObj true coll fs k).1 (indexObj true colla fsa ka).1 = true := by
  cases hka with
  | unk g t _ => exact conc_dynVal_withFl _ _
  | str g s =>
    obtain ⟨f, rfl⟩ := conc_str_inv hkk
    rcases shape_object hfsa with ⟨g', rfl⟩ | ⟨g', rfl⟩ | ⟨g', ys, rfl, rfl⟩
    · -- an unknown object: the unknown has the attribute's type, which the concrete attribute has
      cases hfs.symm.trans ((conc_unk_iff.mp hc).resolve_left (by simp))
      rw [indexObj_unk] at ha ⊢
      cases hl : lookupKey s fs with
      | none => rw [hl] at ha; cases ha
      | some aty => exact conc_of_type (indexObj_typeOf hfs hn hl h)
    · obtain ⟨f', rfl⟩ := conc_null_inv hc; cases hn
    · obtain ⟨f', xs, rfl, hl⟩ := conc_object_inv hc
      cases hfs
      rw [indexObj_object] at h ⊢
      rw [indexObj_object]
      exact found_conc (concF_lookup hl s) h

theorem conc_keyTy {v a : Val} {want : Ty} (h : conc v a = true) (hw : keyTy a.typeOf = some want) :
    keyTy v.typeOf = some want := by
  cases a with
  | unk g T => rw [(conc_unk_iff.mp h).resolve_left (by rintro rfl; cases hw)]; exact hw
  | null g T => obtain ⟨f, rfl⟩ := conc_null_inv h; exact hw
  | list g t ys => obtain ⟨f, xs, rfl, _⟩ := conc_list_inv h; exact hw
  | tuple g ys => obtain ⟨f, xs, rfl, _⟩ := conc_tuple_inv h; exact hw
  | map g t ys => obtain ⟨f, xs, rfl, _⟩ := conc_map_inv h; exact hw
  | object g ys => obtain ⟨f, xs, rfl, _⟩ := conc_object_inv h; exact hw
  | _ => cases hw

theorem indexAt_conc {coll colla key keya k ka : Val} {want : Ty} (hc : conc coll colla = true)
    (hw : wfVal coll = true) (hn : coll.isNull = false) (hna : colla.isNull = false)
    (hwa : keyTy colla.typeOf = some want) (hk : KeyOf key want k) (hka : KeyOf keya want ka)
    (hkk : conc k ka = true) (h : (indexAt true coll k).2 = []) (ha : (indexAt true colla ka).2 = []) :
    conc (indexAt true coll k).1 (indexAt true colla ka).1 = true := by
  -- the concrete collection has the constructor, or the type, of the abstract one: both runs take the same branch
  cases colla with
  | unk g T =>
    have hT : coll.typeOf = T := (conc_unk_iff.mp hc).resolve_left (by rintro rfl; cases hwa)
    simp only [indexAt, hT, typeOf] at h ha ⊢
    cases T with
    | object fs => cases hwa; exact indexObj_conc hc hn hT rfl hka hkk h ha
    | list | tuple | map => exact indexSeq_conc hc hw hn hk hka hkk h ha
    | _ => cases hwa
  | list g t ys => obtain ⟨f, xs, rfl, _⟩ := conc_list_inv hc; exact indexSeq_conc hc hw hn hk hka hkk h ha
  | tuple g ys => obtain ⟨f, xs, rfl, _⟩ := conc_tuple_inv hc; exact indexSeq_conc hc hw hn hk hka hkk h ha
  | map g t ys => obtain ⟨f, xs, rfl, _⟩ := conc_map_inv hc; exact indexSeq_conc hc hw hn hk hka hkk h ha
  | object g ys =>
    obtain ⟨f, xs, rfl, _⟩ := conc_object_inv hc
    cases hwa
    exact indexObj_conc hc hn rfl rfl hka hkk h ha
  | null => cases hna
  | _ => cases hwa

theorem index_conc {coll key colla keya : Val} (hc : conc coll colla = true) (hk : conc key keya = true)
    (hw : wfVal coll = true) (h : (index true coll key).2 = []) (ha : (index true colla keya).2 = []) :
    conc (index true coll key).1 (index true colla keya).1 = true := by
  obtain ⟨nc, nk⟩ := index_null_diag h
  obtain ⟨nca, nka⟩ := index_null_diag ha
  by_cases hda : keya.typeOf = .dyn ∨ colla.typeOf = .dyn
  · rw [index_dyn nca nka hda]; exact conc_dynVal_withFl _ _
  have hd : ¬(key.typeOf = .dyn ∨ coll.typeOf = .dyn) := fun e => hda (e.imp (conc_dyn hk) (conc_dyn hc))
  -- after the key conversion, to the same type in both runs, the keys are related by `conc`
  obtain ⟨want, k, hwant, c, e⟩ := index_at h hd
  obtain ⟨wanta, ka, hwa, ca, ea⟩ := index_at ha hda
  cases hwant.symm.trans (conc_keyTy hc hwa)
  rw [e] at h ⊢; rw [ea] at ha ⊢
  have ht := keyTy_cases hwa
  exact indexAt_conc hc hw nc nca hwa (keyOf_of_tryConvert ht nk c) (keyOf_of_tryConvert ht nka ca)
    (tryConvert_key_conc ht hk c ca) h ha

end HclModel.Proofs.Unk
