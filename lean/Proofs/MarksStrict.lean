import Proofs.MarksNI
/-!
C06: when no sub-evaluation fails, dropping the discarded diagnostics changes nothing (`strict_agrees`): the
strict configuration `strictCx F` agrees with Go's up to the key-mark repair (`goCx F` below).
-/
namespace HclModel.Proofs
open Val

theorem unsupOnly_nil (kept : List Diag) : unsupOnly [] kept = [] := by
  unfold unsupOnly; split <;> simp

theorem evalBin_agree (op : BinOp) (lo ro : Out) (hl : lo.2 = []) (hr : ro.2 = []) :
    evalBin false op lo ro = evalBin true op lo ro := by
  obtain ⟨gl, ld⟩ := lo
  obtain ⟨gr, rd⟩ := ro
  simp only [] at hl hr
  subst hl; subst hr
  unfold evalBin
  simp only []
  split
  · simp only [unmark]
    split
    · rename_i v ds hs
      have : ds = [] := (shortCircuit_some hs).2.1.elim id id
      simp [this, unsupOnly_nil]
    · rfl
  · rfl

theorem evalCond_agree (co to fo : Out) (hc : co.2 = []) (ht : to.2 = []) (hf : fo.2 = []) :
    evalCond false co to fo = evalCond true co to fo := by
  unfold evalCond
  simp [hc, ht, hf, unsupOnly_nil]

/-- `o` is a result in the strict configuration (`strictCx F`, which keeps the discarded diagnostics), `o'` the
    same result in `goCx F` (which drops them, as Go does): they are equal if `o` is error-free -/
def AgreeOut (o' o : Out) : Prop := o.2 = [] → o' = o

theorem forFold_agree (stepf stepf' : ForSt → Val × Val → ForSt) (hle : ∀ st kv, StLe st (stepf st kv))
    (hstep : ∀ st kv, (stepf st kv).diags = [] → stepf' st kv = stepf st kv) :
    ∀ (els : List (Val × Val)) (st : ForSt), (els.foldl stepf st).diags = [] → els.foldl stepf' st = els.foldl stepf st
  | [], _, _ => rfl
  | kv :: els, st, h => by
    simp only [List.foldl_cons] at h ⊢
    rw [hstep st kv ((forFold_le hle els _).diags h)]
    exact forFold_agree stepf stepf' hle hstep els _ h

theorem forOut_agree {co : Out} {probe probe' : Option Out} {stepf stepf' : ForSt → Val × Val → ForSt}
    {fin : ForSt → Out} (hfd : ∀ st, (fin st).2 = st.diags) (hle : ∀ st kv, StLe st (stepf st kv))
    (hprobe : (∀ o, probe = some o → o.2 = []) → probe' = probe)
    (hstep : ∀ st kv, (stepf st kv).diags = [] → stepf' st kv = stepf st kv)
    (h : (forOut co probe stepf fin).2 = []) : forOut co probe' stepf' fin = forOut co probe stepf fin := by
  have hr := forOut_ready hfd hle h
  cases hd : (co.1.typeOf == Ty.dyn)
  · have := hprobe (probe_diags probe (hr.2.2 hd).2.1)
    subst this
    rw [forOut_eq hr stepf fin] at h ⊢
    rw [forOut_eq hr stepf' fin]
    simp only [hd, Bool.false_eq_true, if_false] at h ⊢
    cases he : elements co.1.unmark.1 with
    | none => rfl
    | some els =>
      simp only [he] at h ⊢
      rw [hfd] at h
      rw [forFold_agree stepf stepf' hle hstep els _ h]
  · -- a collection of the dynamic type: the answer is given before the condition is looked at
    rw [forOut_eq hr, forOut_eq ⟨hr.1, hr.2.1, fun hd' => by rw [hd] at hd'; cases hd'⟩]
    simp only [hd, if_true]

/-! The loop bodies: the primed sub-evaluations (those under `goCx F`) agree with the unprimed ones (under
`strictCx F`) wherever the latter report nothing.  The optional condition is `cond.map f` on both sides. -/

theorem tupStep_agree (ev ev' : Val → Val → Out) (hev : ∀ k v, AgreeOut (ev' k v) (ev k v))
    (st : ForSt) (kv : Val × Val) (h : (tupStep ev st kv).diags = []) : tupStep ev' st kv = tupStep ev st kv := by
  simp only [tupStep, List.append_eq_nil_iff] at h
  simp only [tupStep, hev _ _ h.2]

theorem forTupleStep_agree {γ : Type} (ev ev' : Val → Val → Out) (f f' : γ → Val → Val → Out) (cond : Option γ)
    (hev : ∀ k v, AgreeOut (ev' k v) (ev k v)) (hf : ∀ x, cond = some x → ∀ k v, AgreeOut (f' x k v) (f x k v))
    (st : ForSt) (kv : Val × Val) (h : (forTupleStep ev (cond.map f) st kv).diags = []) :
    forTupleStep ev' (cond.map f') st kv = forTupleStep ev (cond.map f) st kv := by
  cases cond with
  | none => exact tupStep_agree ev ev' hev st kv h
  | some x =>
    simp only [Option.map_some] at h ⊢
    rw [forTupleStep_gate] at h
    rw [forTupleStep_gate, forTupleStep_gate,
      hf x rfl _ _ (gate_operand_nil (gate_le _ _) (gated_le _ fun _ st => tupStep_le ev st kv) h)]
    exact gated_agree (fun _ => tupStep_agree ev ev' hev _ kv) h

theorem objStep_agree (g : Bool) (ek ek' ev ev' : Val → Val → Out)
    (hek : ∀ k v, AgreeOut (ek' k v) (ek k v)) (hev : ∀ k v, AgreeOut (ev' k v) (ev k v))
    (st : ForSt) (kv : Val × Val) (h : (objStep g ek ev st kv).diags = []) :
    objStep g ek' ev' st kv = objStep g ek ev st kv := by
  rw [objStep_gate] at h
  rw [objStep_gate, objStep_gate,
    hek _ _ (gate_operand_nil (gate_le _ _) (gated_le _ fun (p : Fl × String) st => (objIns_le g p.1 p.2 _ st).of_add) h)]
  refine gated_agree (fun p hd => ?_) h
  rw [hev _ _ (List.append_eq_nil_iff.1 ((objIns_le g p.1 p.2 _ _).diags hd)).2]

theorem forObjectStep_agree {γ : Type} (g : Bool) (ek ek' ev ev' : Val → Val → Out) (f f' : γ → Val → Val → Out)
    (cond : Option γ) (hek : ∀ k v, AgreeOut (ek' k v) (ek k v))
    (hev : ∀ k v, AgreeOut (ev' k v) (ev k v)) (hf : ∀ x, cond = some x → ∀ k v, AgreeOut (f' x k v) (f x k v))
    (st : ForSt) (kv : Val × Val) (h : (forObjectStep g ek ev (cond.map f) st kv).diags = []) :
    forObjectStep g ek' ev' (cond.map f') st kv = forObjectStep g ek ev (cond.map f) st kv := by
  cases cond with
  | none => exact objStep_agree g ek ek' ev ev' hek hev st kv h
  | some x =>
    simp only [Option.map_some] at h ⊢
    rw [forObjectStep_gate] at h
    rw [forObjectStep_gate, forObjectStep_gate,
      hf x rfl _ _ (gate_operand_nil (gate_le _ _) (gated_le _ fun _ st => objStep_le g ek ev st kv) h)]
    exact gated_agree (fun _ => objStep_agree g ek ek' ev ev' hek hev _ kv) h

theorem splatResultTy_agree (each each' : Val → Out) (hag : ∀ it, AgreeOut (each' it) (each it))
    (sv : Val) (h : (splatResultTy each sv).2 = []) : splatResultTy each' sv = splatResultTy each sv := by
  unfold splatResultTy at h ⊢
  simp only [] at h ⊢
  split
  · rename_i t ht
    simp only [ht] at h
    rw [hag _ h]
  · rename_i ts hts
    simp only [hts] at h
    have : ts.map (fun t => (((each' (Val.unk Fl.none t)).1.typeOf, (each' (Val.unk Fl.none t)).2) : Ty × List Diag)) =
        ts.map (fun t => ((each (Val.unk Fl.none t)).1.typeOf, (each (Val.unk Fl.none t)).2)) := by
      apply List.map_congr_left
      intro t ht
      simp only [List.flatMap_eq_nil_iff, List.mem_map, forall_exists_index, and_imp, forall_apply_eq_imp_iff₂] at h
      rw [hag _ (h t ht)]
    simp only [this]
  · rfl

theorem splatFinish_agree {sv : Val} {sm : Fl} {rt rt' : Ty × List Diag} {vals : List Val} {ds : List Diag}
    (hrt : rt.2 = [] → rt' = rt) (h : (splatFinish sv sm rt vals ds).2 = []) :
    splatFinish sv sm rt' vals ds = splatFinish sv sm rt vals ds := by
  unfold splatFinish at h ⊢
  split
  · split
    · simp only [] at h
      have : rt.2 = [] := by
        split at h
        · simp only [List.append_eq_nil_iff] at h; exact h.2
        · simp at h
      rw [hrt this]
    · rfl
  · rfl

theorem splatOut_agree {sv : Val} {sd : List Diag} {each each' : Val → Out}
    (hag : ∀ it, AgreeOut (each' it) (each it)) (h : (splatOut true (sv, sd) each).2 = []) :
    splatOut false (sv, sd) each' = splatOut true (sv, sd) each := by
  have hsd : sd = [] := splatOut_nil (so := (sv, sd)) h
  subst hsd
  have hq := (splatOut_clean h).2.2
  rw [splatOut_eq] at h ⊢
  rw [splatOut_eq]
  simp only [hasErrors, List.isEmpty_nil, Bool.not_true, Bool.false_eq_true, if_false, List.nil_append] at h ⊢
  rcases Bool.eq_false_or_eq_true sv.isNull with hn | hn
  · simp only [hn, if_true]
  simp only [hn, Bool.false_eq_true, if_false] at h ⊢
  rcases Bool.eq_false_or_eq_true (sv.typeOf == Ty.dyn) with hd | hd
  · simp only [hd, if_true]
  simp only [hd, Bool.false_eq_true, if_false] at h ⊢
  cases hk : (splatSrc sv).isKnown
  · simp only [hk, Bool.not_false, if_true] at h ⊢
    rw [splatResultTy_agree each each' hag _ h]
  simp only [hk, Bool.not_true, Bool.false_eq_true, if_false] at h ⊢
  -- the elements are silent in the strict run, so the run under `goCx F` maps them alike
  have hel := ((hq hn hd).2 hk).1
  rw [show (splatItems (splatSrc sv).unmark.1).map each' = (splatItems (splatSrc sv).unmark.1).map each from
    List.map_congr_left fun it hit => hag it (hel it hit)]
  rcases Bool.eq_false_or_eq_true (splatAutoUp sv && !sv.isKnown) with hu | hu
  · simp only [hu, if_true]
  simp only [hu, Bool.false_eq_true, if_false] at h ⊢
  have hall := flatMap_nil_all ((splatItems (splatSrc sv).unmark.1).map each)
    (List.flatMap_eq_nil_iff.2 fun o ho => by obtain ⟨it, hit, rfl⟩ := List.mem_map.1 ho; exact hel it hit)
  simp only [hasErrors] at hall
  simp only [hall, Bool.not_true, Bool.false_eq_true, if_false] at h ⊢
  exact splatFinish_agree (fun hrt => splatResultTy_agree each each' hag _ hrt) h

/-- Go's configuration (`{ funcs := F }`; `HclModel.goCx` is the one at `stdFuncs`) with the key-mark repair
    `keepKeyMarks`: it differs from `strictCx F` in `keepDropped` only -/
abbrev goCx (F : Funcs) : Cx := { funcs := F, keepKeyMarks := true, keepDropped := false }

/-- what `strict_agrees` claims of an expression in a scope -/
abbrev Agrees (F : Funcs) (e : Expr) (ρ : Env) : Prop :=
  AgreeOut (eval (goCx F) ρ e) (eval (strictCx F) ρ e)

theorem forTuple_agree (F : Funcs) (kv vv : String) (coll val : Expr) (cond : Option Expr) (ρ : Env)
    (hcoll : Agrees F coll ρ) (hval : ∀ ρ', Agrees F val ρ') (hcond : ∀ ce, cond = some ce → ∀ ρ', Agrees F ce ρ') :
    Agrees F (.forTuple kv vv coll val cond) ρ := by
  intro h
  rw [eval_forTuple] at h
  rw [eval_forTuple, eval_forTuple, hcoll (forOut_ready forTupleFin_diags (forTupleStep_le _ _) h).1]
  refine forOut_agree forTupleFin_diags (forTupleStep_le _ _) ?_ ?_ h
  · intro hp
    cases cond with
    | none => rfl
    | some ce => exact congrArg some (hcond ce rfl _ (hp _ rfl))
  · intro st p hd
    exact forTupleStep_agree _ _ _ _ cond (fun k v => hval _) (fun ce hc k v => hcond ce hc _) st p hd

theorem forObject_agree (F : Funcs) (kv vv : String) (coll key val : Expr) (cond : Option Expr) (g : Bool) (ρ : Env)
    (hcoll : Agrees F coll ρ) (hkey : ∀ ρ', Agrees F key ρ') (hval : ∀ ρ', Agrees F val ρ')
    (hcond : ∀ ce, cond = some ce → ∀ ρ', Agrees F ce ρ') :
    Agrees F (.forObject kv vv coll key val cond g) ρ := by
  intro h
  rw [eval_forObject] at h
  rw [eval_forObject, eval_forObject, hcoll (forOut_ready (forObjectFin_diags g) (forObjectStep_le _ _ _ _) h).1]
  refine forOut_agree (forObjectFin_diags g) (forObjectStep_le _ _ _ _) ?_ ?_ h
  · intro hp
    cases cond with
    | none => rfl
    | some ce => exact congrArg some (hcond ce rfl _ (hp _ rfl))
  · intro st p hd
    exact forObjectStep_agree g _ _ _ _ _ _ cond (fun k v => hkey _) (fun k v => hval _)
      (fun ce hc k v => hcond ce hc _) st p hd

mutual
theorem sa_eval (F : Funcs) : ∀ (e : Expr) (ρ : Env), Agrees F e ρ
  | .lit v, ρ, _ => rfl
  | .var x, ρ, _ => by rw [eval_var, eval_var]
  | .getAttr e name, ρ, h => by
    rw [eval_getAttr] at h
    rw [eval_getAttr, eval_getAttr, sa_eval F e ρ (getAttrOut_nil h).1]
  | .index e k, ρ, h => by
    rw [eval_index] at h
    have a := indexOut_nil h
    rw [eval_index, eval_index, sa_eval F e ρ a.1, sa_eval F k ρ a.2.1]
    rfl
  | .bin op l r, ρ, h => by
    rw [eval_bin] at h
    have a := evalBin_diags h
    rw [eval_bin, eval_bin, sa_eval F l ρ a.1, sa_eval F r ρ a.2]
    exact evalBin_agree op _ _ a.1 a.2
  | .un op e, ρ, h => by
    rw [eval_un] at h
    rw [eval_un, eval_un, sa_eval F e ρ (evalUn_diags h)]
  | .cond c t f, ρ, h => by
    rw [eval_cond] at h
    have a := evalCond_diags h
    rw [eval_cond, eval_cond, sa_eval F c ρ a.1, sa_eval F t ρ a.2.1, sa_eval F f ρ a.2.2]
    exact evalCond_agree _ _ _ a.1 a.2.1 a.2.2
  | .tuple es, ρ, h => by
    rw [eval_tuple] at h
    rw [eval_tuple, eval_tuple, sa_list F es ρ h]
  | .object items, ρ, h => by
    rw [eval_object, objectOut_diags] at h
    rw [eval_object, eval_object, sa_items F items ρ h]
  | .forTuple kv vv coll val cond, ρ, h =>
    forTuple_agree F kv vv coll val cond ρ (sa_eval F coll ρ) (sa_eval F val)
      (match cond with
       | none => fun _ hc => nomatch hc
       | some ce => fun _ hc => by cases hc; exact sa_eval F ce) h
  | .forObject kv vv coll key val cond g, ρ, h =>
    forObject_agree F kv vv coll key val cond g ρ (sa_eval F coll ρ) (sa_eval F key) (sa_eval F val)
      (match cond with
       | none => fun _ hc => nomatch hc
       | some ce => fun _ hc => by cases hc; exact sa_eval F ce) h
  | .splat anon src each, ρ, h => by
    rw [eval_splat] at h
    rw [eval_splat, eval_splat, sa_eval F src ρ (splatOut_nil h)]
    exact splatOut_agree (fun it hit => sa_eval F each _ hit) h
  | .template parts, ρ, h => by
    rw [eval_template] at h
    rw [eval_template, eval_template, sa_each F parts ρ (template_nil _ h)]
  | .tjoin t, ρ, h => by
    rw [eval_tjoin] at h
    rw [eval_tjoin, eval_tjoin, sa_eval F t ρ (tjoinOut_nil h)]
  | .call fn args expand, ρ, h => by
    rw [eval_call] at h
    rw [eval_call, eval_call]
    simp only [show (strictCx F).funcs = F from rfl] at h ⊢
    cases hfn : F fn with
    | none => rfl
    | some spec =>
      simp only [hfn] at h ⊢
      have hargs := fun hx => sa_each F args ρ (callOut_outs_nil h hx)
      match expand with
      | none => rw [hargs (fun o ho => nomatch ho)]; rfl
      | some le =>
        simp only [Option.map_some, expandArg] at h hargs ⊢
        rw [sa_eval F le ρ (callOut_expand_nil h)]
        cases hx : expandOut (eval (strictCx F) ρ le) with
        | error o => rfl
        | ok p => rw [hargs (fun o ho => by rw [hx] at ho; cases ho)]
theorem sa_list (F : Funcs) : ∀ (es : List Expr) (ρ : Env), (evalList (strictCx F) ρ es).2 = [] →
    evalList (goCx F) ρ es = evalList (strictCx F) ρ es
  | [], _, _ => by simp only [evalList]
  | e :: es, ρ, h => by
    rw [evalList_cons] at h
    simp only [List.append_eq_nil_iff] at h
    rw [evalList_cons, evalList_cons, sa_eval F e ρ h.1, sa_list F es ρ h.2]
theorem sa_each (F : Funcs) : ∀ (es : List Expr) (ρ : Env), (∀ o ∈ evalEach (strictCx F) ρ es, o.2 = []) →
    evalEach (goCx F) ρ es = evalEach (strictCx F) ρ es
  | [], _, _ => by simp only [evalEach]
  | e :: es, ρ, h => by
    rw [evalEach_cons] at h
    rw [evalEach_cons, evalEach_cons, sa_eval F e ρ (h _ (by simp)), sa_each F es ρ (fun o ho => h o (by simp [ho]))]
theorem sa_items (F : Funcs) : ∀ (items : List (Expr × Expr)) (ρ : Env),
    (evalItems (strictCx F) ρ items).1.diags = [] → evalItems (goCx F) ρ items = evalItems (strictCx F) ρ items
  | [], _, _ => by simp only [evalItems]
  | (ke, ve) :: rest, ρ, h => by
    rw [evalItems_cons] at h
    obtain ⟨a1, a2, a3, -⟩ := itemStep_clean h
    rw [evalItems_cons, evalItems_cons, sa_eval F ke ρ a1, sa_eval F ve ρ a2, sa_items F rest ρ a3]
end

theorem strict_agrees (F : Funcs) (e : Expr) (ρ : Env) (h : (eval (strictCx F) ρ e).2 = []) :
    eval { funcs := F, keepKeyMarks := true, keepDropped := false } ρ e = ((eval (strictCx F) ρ e).1, []) := by
  have := sa_eval F e ρ h
  rw [this]
  exact Prod.ext rfl h
end HclModel.Proofs
