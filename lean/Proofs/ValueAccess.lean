import Proofs.ValueConvert
/-!
`getAttr` and `index` taken apart, for every analysis of the evaluator to build on: `index` is the key
conversion (`keyConv`) followed by `indexSeq` (list, tuple, map) or `indexObj` (object), each of which finds an
element (`found`, `elemAt`) or names its type (`unkTupleAt`).  `Access` says what a single access can yield.
The Boolean `kk` is the `keepKeyMarks` of `index`: whether the result of indexing an object carries the key's marks.
-/
namespace HclModel.Proofs
open Val

@[simp] theorem errOut_diags (s : String) (fr : List Val) : (errOut s fr).2 ≠ [] := by simp [errOut]
@[simp] theorem unsupportedOut_diags (s : String) : (unsupportedOut s).2 ≠ [] := by simp [unsupportedOut]

def Elem (x : Val) : Val → Prop
  | .list _ _ xs => x ∈ xs
  | .tuple _ xs => x ∈ xs
  | .map _ _ kvs => ∃ k, lookupKey k kvs = some x
  | .object _ kvs => ∃ k, lookupKey k kvs = some x
  | _ => False

def found (o : Option Val) (f : Fl) (site : String) : Out :=
  match o with
  | some x => (x.withFl f, [])
  | none => errOut site

def elemAt (xs : List Val) (q : Rat) (f : Fl) : Out :=
  match natIndex? q with
  | some i => found xs[i]? f "Invalid index: out of range"
  | none => errOut "Invalid index: not a whole non-negative number"

def unkTupleAt (ts : List Ty) (q : Rat) (f : Fl) : Out :=
  match natIndex? q with
  | some i => match ts[i]? with
    | some t => (Val.unk f t, [])
    | none => errOut "Invalid index: out of range"
  | none => errOut "Invalid index: not a whole non-negative number"

/-- what `index` yields when `HasIndex` is unknown (unknown collection or unknown key) or the key is not of the
    kind the collection takes: an unknown of the element type -/
def indexUnk (coll : Val) : Out :=
  match coll.typeOf with
  | .tuple _ => (Val.dynVal.withFl coll.fl, [])
  | .list t => (Val.unk coll.fl t, [])
  | .map t => (Val.unk coll.fl t, [])
  | _ => (Val.dynVal, [])

/-- `index` after the key conversion, list / tuple / map collections -/
def indexSeq (coll key : Val) : Out :=
  match coll, key with
  | .list _ _ xs, .num _ q => elemAt xs q (coll.fl.join key.fl)
  | .tuple _ xs, .num _ q => elemAt xs q (coll.fl.join key.fl)
  | .unk _ (.tuple ts), .num _ q => unkTupleAt ts q (coll.fl.join key.fl)
  | .map _ _ kvs, .str _ s => found (lookupKey s kvs) (coll.fl.join key.fl) "Invalid index: no such key"
  | _, _ => indexUnk coll

/-- `index` after the key conversion, object collections of attribute types `fs` -/
def indexObj (kk : Bool) (coll : Val) (fs : List (String × Ty)) (key : Val) : Out :=
  let cm := coll.fl
  match key with
  | .str kf s =>
    let rm : Fl := if kk then cm.join kf else cm
    (match lookupKey s fs with
     | none => errOut "Invalid index: no such attribute"
     | some aty =>
       match coll with
       | .object _ kvs => found (lookupKey s kvs) rm "Invalid index: no such attribute"
       | _ => (Val.unk rm aty, []))
  | _ => (Val.dynVal.withFl cm, [])

/-! Only a number key in a list or tuple (known, or an unknown tuple) and a string key in a map look for an
element; the converted key is a number, a string or unknown. -/

theorem indexSeq_num (coll : Val) (f : Fl) (q : Rat) : indexSeq coll (.num f q) =
    match coll with
    | .list _ _ xs | .tuple _ xs => elemAt xs q (coll.fl.join f)
    | .unk _ (.tuple ts) => unkTupleAt ts q (coll.fl.join f)
    | _ => indexUnk coll := by
  cases coll with
  | unk g T => cases T <;> rfl
  | _ => rfl

theorem indexSeq_str (coll : Val) (f : Fl) (s : String) : indexSeq coll (.str f s) =
    match coll with
    | .map _ _ kvs => found (lookupKey s kvs) (coll.fl.join f) "Invalid index: no such key"
    | _ => indexUnk coll := by
  cases coll with
  | unk g T => cases T <;> rfl
  | _ => rfl

theorem indexSeq_unk (coll : Val) (f : Fl) (t : Ty) : indexSeq coll (.unk f t) = indexUnk coll := by
  cases coll with
  | unk g T => cases T <;> rfl
  | _ => rfl

def keyConv (key : Val) (want : Ty) (k : Val → Out) : Out :=
  match tryConvert key want with
  | .error d => if d.isUnsupported then (Val.dynVal, [d]) else errOut "Invalid index: key conversion"
  | .ok key => k key

/-- the type to which `index` converts the key, by the type of the collection -/
def keyTy : Ty → Option Ty
  | .list _ | .tuple _ => some .num
  | .map _ | .object _ => some .str
  | _ => none

theorem keyTy_cases {t want : Ty} (h : keyTy t = some want) : want = .num ∨ want = .str := by
  cases t <;> cases h <;> simp

/-- `index` after the key conversion -/
def indexAt (kk : Bool) (coll key : Val) : Out :=
  match coll.typeOf with
  | .object fs => indexObj kk coll fs key
  | _ => indexSeq coll key

theorem indexAt_object {kk : Bool} {coll : Val} {fs : List (String × Ty)} (h : coll.typeOf = .object fs) (key : Val) :
    indexAt kk coll key = indexObj kk coll fs key := by
  unfold indexAt; rw [h]

theorem indexAt_seq {kk : Bool} {coll : Val} (h : ∀ fs, coll.typeOf ≠ .object fs) (key : Val) :
    indexAt kk coll key = indexSeq coll key := by
  unfold indexAt
  split
  next fs ho => exact absurd ho (h fs)
  next => rfl

theorem index_eq (kk : Bool) (coll key : Val) : index kk coll key =
    if coll.isNull then errOut "Attempt to index null value"
    else if key.isNull then errOut "Invalid index: null key"
    else if key.typeOf == .dyn ∨ coll.typeOf == .dyn then (Val.dynVal.withFl coll.fl, [])
    else match keyTy coll.typeOf with
      | some want => keyConv key want (indexAt kk coll)
      | none => errOut "Invalid index: not indexable" := by
  -- a definitional restatement: once the constructor of the collection is known, both sides compute to one term
  cases coll with
  | unk f T => cases T <;> rfl
  | _ => rfl

theorem keyConv_nil {key : Val} {want : Ty} {k : Val → Out} (h : (keyConv key want k).2 = []) :
    ∃ k2, tryConvert key want = .ok k2 ∧ keyConv key want k = k k2 := by
  unfold keyConv at h ⊢
  split at h
  · split at h <;> cases h
  · rename_i k2 hk; exact ⟨k2, hk, rfl⟩

theorem index_null_diag {kk : Bool} {coll key : Val} (h : (index kk coll key).2 = []) :
    coll.isNull = false ∧ key.isNull = false := by
  rw [index_eq] at h
  by_cases hc : coll.isNull = true
  · rw [if_pos hc] at h; cases h
  · rw [if_neg hc] at h
    by_cases hn : key.isNull = true
    · rw [if_pos hn] at h; cases h
    · exact ⟨by simpa using hc, by simpa using hn⟩

theorem index_dyn {kk : Bool} {coll key : Val} (hc : coll.isNull = false) (hn : key.isNull = false)
    (hd : key.typeOf = .dyn ∨ coll.typeOf = .dyn) : index kk coll key = (Val.dynVal.withFl coll.fl, []) := by
  rw [index_eq, hc, hn]
  simp [hd]

theorem index_at {kk : Bool} {coll key : Val} (h : (index kk coll key).2 = [])
    (hd : ¬(key.typeOf = .dyn ∨ coll.typeOf = .dyn)) :
    ∃ want k, keyTy coll.typeOf = some want ∧ tryConvert key want = .ok k ∧
      index kk coll key = indexAt kk coll k := by
  obtain ⟨hc, hn⟩ := index_null_diag h
  rw [index_eq, hc, hn] at h ⊢
  simp only [Bool.false_eq_true, if_false] at h ⊢
  rw [if_neg (by simpa using hd)] at h ⊢
  cases hw : keyTy coll.typeOf with
  | none => rw [hw] at h; cases h
  | some want =>
    simp only [hw] at h ⊢
    obtain ⟨k, c, e⟩ := keyConv_nil h
    exact ⟨want, k, rfl, c, e⟩

/-- on an object value the attribute types are those of the attributes: one lookup decides -/
theorem found_typeOfFields (k : String) (kvs : List (String × Val)) (f : Fl) (site : String) :
    (match lookupKey k (typeOfFields kvs) with
      | none => errOut site
      | some _ => found (lookupKey k kvs) f site) = found (lookupKey k kvs) f site := by
  rw [lookupKey_typeOfFields]
  cases lookupKey k kvs <;> rfl

theorem getAttr_object (f : Fl) (kvs : List (String × Val)) (name : String) :
    getAttr (.object f kvs) name = found (lookupKey name kvs) f "Unsupported attribute: no such attribute" :=
  found_typeOfFields name kvs f _

theorem getAttr_map (f : Fl) (t : Ty) (kvs : List (String × Val)) (name : String) :
    getAttr (.map f t kvs) name = found (lookupKey name kvs) f "Missing map element" := rfl

theorem getAttr_unk (f : Fl) (t : Ty) (name : String) : getAttr (.unk f t) name =
    match t with
    | .object fs =>
      (match lookupKey name fs with
       | none => errOut "Unsupported attribute: no such attribute"
       | some aty => (.unk f aty, []))
    | .map u => (.unk f u, [])
    | .dyn => (Val.dynVal.withFl f, [])
    | _ => errOut "Unsupported attribute" := by
  cases t <;> rfl

theorem indexObj_object (kk : Bool) (f kf : Fl) (kvs : List (String × Val)) (s : String) :
    indexObj kk (.object f kvs) (typeOfFields kvs) (.str kf s) =
      found (lookupKey s kvs) (if kk then f.join kf else f) "Invalid index: no such attribute" :=
  found_typeOfFields s kvs _ _

theorem indexObj_unk (kk : Bool) (g kf : Fl) (T : Ty) (fs : List (String × Ty)) (s : String) :
    indexObj kk (.unk g T) fs (.str kf s) =
      match lookupKey s fs with
      | none => errOut "Invalid index: no such attribute"
      | some aty => (.unk (if kk then g.join kf else g) aty, []) := rfl

theorem found_ok {o : Option Val} {f : Fl} {site : String} (h : (found o f site).2 = []) :
    ∃ x, o = some x ∧ found o f site = (x.withFl f, []) := by
  cases o with
  | none => cases h
  | some x => exact ⟨x, rfl, rfl⟩

theorem elemAt_eq {q : Rat} {i : Nat} (hi : natIndex? q = some i) (xs : List Val) (f : Fl) :
    elemAt xs q f = found xs[i]? f "Invalid index: out of range" := by
  unfold elemAt
  rw [hi]

theorem elemAt_ok {xs : List Val} {q : Rat} {f : Fl} (h : (elemAt xs q f).2 = []) :
    ∃ i x, natIndex? q = some i ∧ xs[i]? = some x ∧ elemAt xs q f = (x.withFl f, []) := by
  unfold elemAt at h ⊢
  cases hi : natIndex? q with
  | none => rw [hi] at h; cases h
  | some i =>
    rw [hi] at h
    obtain ⟨x, hx, e⟩ := found_ok h
    exact ⟨i, x, rfl, hx, e⟩

theorem unkTupleAt_ok {ts : List Ty} {q : Rat} {f : Fl} (h : (unkTupleAt ts q f).2 = []) :
    ∃ i t, natIndex? q = some i ∧ ts[i]? = some t ∧ unkTupleAt ts q f = (.unk f t, []) := by
  unfold unkTupleAt at h ⊢
  cases hi : natIndex? q with
  | none => rw [hi] at h; cases h
  | some i =>
    simp only [hi] at h ⊢
    cases ht : ts[i]? with
    | none => rw [ht] at h; cases h
    | some t => exact ⟨i, t, rfl, ht, rfl⟩

/-- The outcomes of one access to `coll`: a failure (`cty.DynamicVal` and one diagnostic that echoes no value),
    an element of `coll` or an unknown (of some type, or of unknown type).  `K` is what is known of the flags put on
    the result: `getAttr_access` and `index_access` give them exactly (`· = v.fl`, `IndexFl`), and an analysis
    weakens that by `Access.mono` to the property it follows (`fun g => g.m = true` for the marks, consistent flags
    that keep the mark of `coll` for the ghost taint), about which it has its own lemma on `Access`. -/
inductive Access (coll : Val) (K : Fl → Prop) : Out → Prop
  | fail (d : Diag) : d.frags = [] → Access coll K (Val.dynVal, [d])
  | elem (x : Val) (g : Fl) : Elem x coll → K g → Access coll K (x.withFl g, [])
  | unk (g : Fl) (t : Ty) : K g → Access coll K (.unk g t, [])
  | dyn (g : Fl) : K g → Access coll K (Val.dynVal.withFl g, [])

theorem Access.mono {coll : Val} {K K' : Fl → Prop} {o : Out} (hK : ∀ g, K g → K' g) (h : Access coll K o) :
    Access coll K' o := by
  cases h with
  | fail d hd => exact .fail d hd
  | elem x g hx hg => exact .elem x g hx (hK g hg)
  | unk g t hg => exact .unk g t (hK g hg)
  | dyn g hg => exact .dyn g (hK g hg)

theorem Access.frags {coll : Val} {K : Fl → Prop} {o : Out} (h : Access coll K o) : ∀ d ∈ o.2, d.frags = [] := by
  cases h with
  | fail d hd => intro d' h'; cases List.mem_singleton.mp h'; exact hd
  | elem | unk | dyn => intro _ h'; cases h'

theorem Access.of_found {coll : Val} {K : Fl → Prop} {o : Option Val} {g : Fl} (site : String)
    (ho : ∀ x, o = some x → Elem x coll) (hg : K g) : Access coll K (found o g site) := by
  cases o with
  | none => exact .fail _ rfl
  | some x => exact .elem x g (ho x rfl) hg

theorem Access.of_elemAt {coll : Val} {K : Fl → Prop} {xs : List Val} {g : Fl} (q : Rat)
    (hxs : ∀ x ∈ xs, Elem x coll) (hg : K g) : Access coll K (elemAt xs q g) := by
  unfold elemAt
  split
  · exact .of_found _ (fun x hx => hxs x (List.mem_of_getElem? hx)) hg
  · exact .fail _ rfl

theorem Access.of_unkTupleAt {coll : Val} {K : Fl → Prop} {g : Fl} (ts : List Ty) (q : Rat) (hg : K g) :
    Access coll K (unkTupleAt ts q g) := by
  unfold unkTupleAt
  split
  · split
    · exact .unk _ _ hg
    · exact .fail _ rfl
  · exact .fail _ rfl

theorem indexUnk_access {K : Fl → Prop} (coll : Val) {want : Ty} (hw : keyTy coll.typeOf = some want)
    (hno : ∀ fs, coll.typeOf ≠ .object fs) (h0 : K coll.fl) : Access coll K (indexUnk coll) := by
  unfold indexUnk
  cases hc : coll.typeOf with
  | tuple ts => exact .dyn _ h0
  | list t | map t => exact .unk _ _ h0
  | object fs => exact (hno fs hc).elim
  | _ => rw [hc] at hw; cases hw

theorem indexSeq_access {K : Fl → Prop} (coll k2 : Val) {want : Ty} (hw : keyTy coll.typeOf = some want)
    (hno : ∀ fs, coll.typeOf ≠ .object fs) (h0 : K coll.fl) (h1 : K (coll.fl.join k2.fl)) :
    Access coll K (indexSeq coll k2) := by
  unfold indexSeq
  split
  · exact .of_elemAt _ (fun _ h => h) h1
  · exact .of_elemAt _ (fun _ h => h) h1
  · exact .of_unkTupleAt _ _ h1
  · exact .of_found _ (fun _ h => ⟨_, h⟩) h1
  · exact indexUnk_access coll hw hno h0

theorem indexObj_str_access {K : Fl → Prop} (kk : Bool) (coll : Val) (fs : List (String × Ty)) (kf : Fl)
    (s : String) (h : K (if kk then coll.fl.join kf else coll.fl)) :
    Access coll K (indexObj kk coll fs (.str kf s)) := by
  unfold indexObj
  dsimp only
  split
  · exact .fail _ rfl
  · split
    · exact .of_found _ (fun _ h => ⟨_, h⟩) h
    · exact .unk _ _ h

theorem indexObj_access {K : Fl → Prop} (kk : Bool) (coll : Val) (fs : List (String × Ty)) (k2 : Val)
    (h0 : K coll.fl) (h1 : K (coll.fl.join k2.fl)) : Access coll K (indexObj kk coll fs k2) := by
  cases k2 with
  | str kf s =>
    refine indexObj_str_access kk coll fs kf s ?_
    cases kk
    · exact h0
    · exact h1
  | _ => exact .dyn _ h0

theorem indexAt_access {K : Fl → Prop} (kk : Bool) (coll k2 : Val) {want : Ty} (hw : keyTy coll.typeOf = some want)
    (h0 : K coll.fl) (h1 : K (coll.fl.join k2.fl)) : Access coll K (indexAt kk coll k2) := by
  by_cases ho : ∃ fs, coll.typeOf = .object fs
  · obtain ⟨fs, ho⟩ := ho
    rw [indexAt_object ho]; exact indexObj_access kk coll fs k2 h0 h1
  · have hno : ∀ fs, coll.typeOf ≠ .object fs := fun fs h => ho ⟨fs, h⟩
    rw [indexAt_seq hno]; exact indexSeq_access coll k2 hw hno h0 h1

theorem keyConv_access {coll key : Val} {K : Fl → Prop} {want : Ty} {k : Val → Out}
    (h : ∀ k2, tryConvert key want = .ok k2 → Access coll K (k k2)) : Access coll K (keyConv key want k) := by
  unfold keyConv
  split
  · split
    · exact .fail _ (tryConvert_err_frags ‹_›)
    · exact .fail _ rfl
  · exact h _ ‹_›

/-- the flags of a result of `index coll key`: those of `coll`, joined with those of the key or not -/
def IndexFl (coll key : Val) (g : Fl) : Prop := g = coll.fl ∨ g = coll.fl.join key.fl

theorem index_access (kk : Bool) (coll key : Val) : Access coll (IndexFl coll key) (index kk coll key) := by
  rw [index_eq]
  split
  · exact .fail _ rfl
  split
  · exact .fail _ rfl
  split
  · exact .dyn _ (.inl rfl)
  split
  next want hw =>
    exact keyConv_access fun k2 hk => indexAt_access kk coll k2 hw (.inl rfl) (.inr (by rw [tryConvert_fl hk]))
  next => exact .fail _ rfl

theorem getAttr_access (v : Val) (name : String) : Access v (· = v.fl) (getAttr v name) := by
  unfold getAttr
  split
  · exact .fail _ rfl
  · dsimp only
    split
    · split
      · exact .fail _ rfl
      · split
        · exact .of_found _ (fun _ h => ⟨_, h⟩) rfl
        · exact .unk _ _ rfl
    · split
      · exact .of_found _ (fun _ h => ⟨_, h⟩) rfl
      · exact .unk _ _ rfl
    · exact .dyn _ rfl
    · exact .fail _ rfl

theorem Access.marked {coll : Val} {o : Out} (h : Access coll (fun g => g.m = true) o) (hd : o.2 = []) :
    o.1.fl.m = true := by
  cases h with
  | fail => cases hd
  | elem x g _ hg => simp [hg]
  | unk g t hg => exact hg
  | dyn g hg => simp [hg]

theorem found_marked {o : Option Val} {f : Fl} {site : String} (hf : f.m = true) (h : (found o f site).2 = []) :
    (found o f site).1.fl.m = true := by
  cases o with
  | none => cases h
  | some x => simp [found, hf]

theorem getAttr_marked (v : Val) (name : String) (hm : v.fl.m = true) (h : (getAttr v name).2 = []) :
    (getAttr v name).1.fl.m = true :=
  ((getAttr_access v name).mono fun _ hg => hg ▸ hm).marked h

theorem index_coll_marked (kk : Bool) (coll key : Val) (hm : coll.fl.m = true) (h : (index kk coll key).2 = []) :
    (index kk coll key).1.fl.m = true := by
  refine ((index_access kk coll key).mono ?_).marked h
  rintro g (rfl | rfl)
  · exact hm
  · simp [hm]

end HclModel.Proofs
