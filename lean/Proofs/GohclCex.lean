import Proofs.GohclStruct
/-!
C16: a non-nil empty slice of blocks comes back nil, and a label field of the value passed to `EncodeIntoBody` /
`DecodeBody` itself is lost.  `decodeBody` is defined by well-founded recursion and `impliedSchema` sorts with
`Array.qsort`, so `decide` does not evaluate them: the results come from the lemmas about `Content`.
-/
namespace HclModel.Gohcl.Proofs
open HclModel HclModel.Body HclModel.Body.Proofs

theorem content_empty (fields : List Field) (hnd : (names fields).Nodup)
    (hreq : ∀ a ∈ attrSchemas fields, a.required = false) :
    let r := (GBody.mk [] []).native.content (impliedSchema (.mk fields))
    r.2 = [] ∧ r.1.blocks = [] := by
  have := contentRT (fields := fields) hnd (as := []) (bs := []) (by simp)
    (fun a ha hr => by rw [hreq a ha] at hr; exact absurd hr (by decide)) (by simp)
  exact ⟨this.1, this.2.2⟩

theorem empty_slice_not_preserved :
    let ty : STy := .mk [.block "b" .slice (.mk [])]
    let v : SVal := .mk [.slice (some [])]
    ∃ b, encodeBody ty v = some b ∧ decodeBody 3 ty b = some (.mk [.slice none]) := by
  refine ⟨.mk [] [], rfl, ?_⟩
  obtain ⟨h1, h2⟩ := content_empty [.block "b" .slice (.mk [])] (by simp [names, fieldName])
    (by simp [attrSchemas])
  unfold decodeBody
  simp only [h1, List.isEmpty_nil, Bool.not_true, Bool.false_eq_true, if_false, STy.fields]
  rw [decodeFields_cons, decodeFields_nil]
  simp only [decField, h2, List.filter_nil, decShape, Option.map_some]

theorem root_label_lost :
    let ty : STy := .mk [.label "n"]
    let v : SVal := .mk [.label "x"]
    ty.wf = true ∧ v.ok ty = true ∧ ty.depth ≤ 1 ∧
    ∃ b, encodeBody ty v = some b ∧ decodeBody 1 ty b = some (.mk [.label ""]) := by
  refine ⟨by decide, by decide, by decide, .mk [] [], rfl, ?_⟩
  obtain ⟨h1, h2⟩ := content_empty [.label "n"] List.nodup_nil (by simp [attrSchemas])
  unfold decodeBody
  simp only [h1, List.isEmpty_nil, Bool.not_true, Bool.false_eq_true, if_false, STy.fields]
  rw [decodeFields_cons, decodeFields_nil]
  simp only [decField, List.headD_nil, Option.map_some]

end HclModel.Gohcl.Proofs
