import HclModel.Syntax.Template
/-!
Template white-space processing (`HclModel/Syntax/Template.lean`, C01): strip markers, flush heredocs and melding
remove white space only, and the flush rule removes exactly the smallest counted indentation.
-/
namespace HclModel.Template.Proofs
open HclModel.Template

theorem filter_dropWhile (sp : Char → Bool) (s : List Char) :
    (s.dropWhile sp).filter (fun c => !sp c) = s.filter (fun c => !sp c) := by
  induction s with
  | nil => rfl
  | cons c s ih =>
    by_cases h : sp c = true
    · simp [List.dropWhile, h, ih]
    · simp [List.dropWhile, h]

theorem filter_trimLeft (sp : Char → Bool) (s : List Char) :
    (trimLeft sp s).filter (fun c => !sp c) = s.filter (fun c => !sp c) := filter_dropWhile sp s

theorem filter_trimRight (sp : Char → Bool) (s : List Char) :
    (trimRight sp s).filter (fun c => !sp c) = s.filter (fun c => !sp c) := by
  unfold trimRight
  rw [List.filter_reverse, filter_dropWhile, ← List.filter_reverse, List.reverse_reverse]

theorem indentOf_cons (sp : Char → Bool) (c : Char) (s : List Char) :
    indentOf sp (c :: s) = if sp c then indentOf sp s + 1 else 0 := by
  unfold indentOf; rw [List.takeWhile_cons]; split <;> rfl

theorem succ_le_indentOf_cons {sp : Char → Bool} {c : Char} {s : List Char} {m : Nat}
    (h : m + 1 ≤ indentOf sp (c :: s)) : sp c = true ∧ m ≤ indentOf sp s := by
  rw [indentOf_cons] at h
  split at h
  · exact ⟨‹_›, Nat.le_of_succ_le_succ h⟩
  · omega

theorem filter_drop_le_indent (sp : Char → Bool) (s : List Char) (m : Nat) (h : m ≤ indentOf sp s) :
    (s.drop m).filter (fun c => !sp c) = s.filter (fun c => !sp c) := by
  induction s generalizing m with
  | nil => simp
  | cons c s ih =>
    cases m with
    | zero => rfl
    | succ m =>
      obtain ⟨hc, h⟩ := succ_le_indentOf_cons h
      simp [hc, ih m h]

theorem skel_append (sp : Char → Bool) (a b : List Part) : skel sp (a ++ b) = skel sp a ++ skel sp b := by
  induction a with
  | nil => rfl
  | cons p a ih => cases p <;> simp [skel, ih]

theorem skel_trimLast (sp : Char → Bool) : ∀ ps : List Part, skel sp (trimLast sp ps) = skel sp ps
  | [] => rfl
  | [.lit s] => by simp [trimLast, skel, filter_trimRight]
  | [.seq k id] => rfl
  | p :: q :: rest => by
    have ih := skel_trimLast sp (q :: rest)
    cases p <;> simp [trimLast, skel, ih]

theorem skel_fold (sp : Char → Bool) (raws : List Raw) (st : StripSt) :
    skel sp (raws.foldl (stripStep sp) st).acc = skel sp st.acc ++ skel sp (naive raws) := by
  induction raws generalizing st with
  | nil => simp [naive, skel]
  | cons r raws ih =>
    cases r with
    | lit s =>
      simp only [List.foldl_cons, ih, stripStep, naive, skel_append, skel]
      split <;> simp [filter_trimLeft]
    | seq k id l rr =>
      simp only [List.foldl_cons, ih, stripStep, naive, skel_append, skel]
      split <;> simp [skel_trimLast]

/-- Strip markers remove white space only: the non-space characters and the sequences come out as written. -/
theorem skel_parts (sp : Char → Bool) (raws : List Raw) : skel sp (parts sp raws) = skel sp (naive raws) := by
  have h := skel_fold sp raws {}
  simp only [skel, List.nil_append] at h
  unfold parts
  split
  · rename_i he
    rw [he] at h
    simp [skel] at h ⊢
    exact h
  · exact h

def noStrip : Raw → Bool
  | .lit _ => true
  | .seq _ _ l r => !l && !r

theorem fold_noStrip (sp : Char → Bool) (raws : List Raw) (st : StripSt) (h : raws.all noStrip = true)
    (hl : st.ltrimNext = false) : (raws.foldl (stripStep sp) st).acc = st.acc ++ naive raws := by
  induction raws generalizing st with
  | nil => simp [naive]
  | cons r raws ih =>
    simp only [List.all_cons, Bool.and_eq_true] at h
    cases r with
    | lit s =>
      rw [List.foldl_cons, ih _ h.2 (by simp [stripStep])]
      simp [stripStep, hl, naive]
    | seq k id l rr =>
      simp only [noStrip, Bool.and_eq_true, Bool.not_eq_true'] at h
      rw [List.foldl_cons, ih _ h.2 (by simp [stripStep, h.1.2])]
      simp [stripStep, h.1.1, naive]

theorem parts_noStrip (sp : Char → Bool) (raws : List Raw) (h : raws.all noStrip = true) :
    parts sp raws = (match naive raws with | [] => [.lit []] | ps => ps) := by
  unfold parts
  rw [fold_noStrip sp raws {} h rfl]
  simp only [List.nil_append]
  cases naive raws <;> rfl

/-- the indentations that count, in order -/
def counted (sp : Char → Bool) : Bool → List Part → List Nat
  | _, [] => []
  | nl, p :: rest =>
    (match (if nl then lineIndent sp p else none) with
     | some n => [n]
     | none => []) ++ counted sp (nextNl p) rest

theorem le_of_le_omin {a b : Option Nat} {m : Nat} (h : ∀ x, omin a b = some x → m ≤ x) :
    (∀ x, a = some x → m ≤ x) ∧ (∀ x, b = some x → m ≤ x) := by
  cases a with
  | none => exact ⟨nofun, h⟩
  | some x =>
    cases b with
    | none => exact ⟨h, nofun⟩
    | some y =>
      have : m ≤ min x y := h _ rfl
      exact ⟨fun _ e => by cases e; omega, fun _ e => by cases e; omega⟩

theorem minIndent_eq_min (sp : Char → Bool) (nl : Bool) (ps : List Part) :
    minIndent sp nl ps = (counted sp nl ps).min? := by
  induction ps generalizing nl with
  | nil => rfl
  | cons p rest ih =>
    simp only [minIndent, counted, ih]
    cases h : (if nl then lineIndent sp p else none) with
    | none => simp [omin]
    | some n =>
      cases hr : (counted sp (nextNl p) rest).min? with
      | none =>
        have : counted sp (nextNl p) rest = [] := by simpa using hr
        simp [omin, this]
      | some k =>
        simp only [omin, List.singleton_append]
        rw [List.min?_cons, hr]
        simp

/-- `minIndent` counts a literal exactly where `adjust` cuts it. -/
theorem counted_lit (sp : Char → Bool) (nl : Bool) (s : List Char) :
    (if nl then lineIndent sp (.lit s) else none) =
      if (nl && !isBlankLine sp s) = true then some (indentOf sp s) else none := by
  cases nl <;> cases hb : isBlankLine sp s <;> simp [lineIndent, hb]

theorem skel_adjust (sp : Char → Bool) (m : Nat) (nl : Bool) (ps : List Part)
    (h : ∀ x, minIndent sp nl ps = some x → m ≤ x) : skel sp (adjust sp m nl ps) = skel sp ps := by
  induction ps generalizing nl with
  | nil => rfl
  | cons p rest ih =>
    obtain ⟨hhere, hrest⟩ := le_of_le_omin (a := if nl then lineIndent sp p else none)
      (b := minIndent sp (nextNl p) rest) h
    cases p with
    | seq k id => simp [adjust, skel, ih _ hrest]
    | lit s =>
      simp only [adjust]
      split
      · rename_i hc
        have hm : m ≤ indentOf sp s := hhere _ (by rw [counted_lit, if_pos hc])
        simp only [skel, filter_drop_le_indent sp s m hm, ih _ hrest]
      · simp only [skel, ih _ hrest]

theorem skel_flush (sp : Char → Bool) (ps : List Part) : skel sp (flush sp ps) = skel sp ps := by
  unfold flush
  split
  · rfl
  · rename_i m hm
    exact skel_adjust sp m true ps (by intro x hx; rw [hm] at hx; cases hx; exact Nat.le_refl _)

theorem text_meld (ps : List Part) : text (meld ps) = text ps := by
  fun_induction meld ps with
  | case1 => rfl
  | case2 p => rfl
  | case3 a b rest ih => simp [ih, text]
  | case4 p q rest _ ih => cases p <;> simp [text, ih]

theorem skel_meld (sp : Char → Bool) (ps : List Part) : skel sp (meld ps) = skel sp ps := by
  fun_induction meld ps with
  | case1 => rfl
  | case2 p => rfl
  | case3 a b rest ih => simp [ih, skel]
  | case4 p q rest _ ih => cases p <;> simp [skel, ih]

def noAdjacentLits : List Part → Bool
  | .lit _ :: .lit b :: rest => false && noAdjacentLits (.lit b :: rest)
  | _ :: rest => noAdjacentLits rest
  | [] => true

theorem meld_seq_cons (k : Kind) (id : Nat) (rest : List Part) :
    meld (.seq k id :: rest) = .seq k id :: meld rest := by
  cases rest <;> simp [meld]

theorem meld_noAdjacent (ps : List Part) : noAdjacentLits (meld ps) = true := by
  fun_induction meld ps with
  | case1 => rfl
  | case2 p => cases p <;> rfl
  | case3 a b rest ih => exact ih
  | case4 p q rest hne ih =>
    cases p with
    | seq k id => simpa [noAdjacentLits] using ih
    | lit a =>
      -- `q` is not a literal (else case 3 applies), and a sequence stays at the head of what follows it
      cases q with
      | lit b => exact (hne a b rfl rfl).elim
      | seq k id => rw [meld_seq_cons] at ih ⊢; simpa [noAdjacentLits] using ih

theorem adjust_zero (sp : Char → Bool) (nl : Bool) (ps : List Part) : adjust sp 0 nl ps = ps := by
  induction ps generalizing nl with
  | nil => rfl
  | cons p rest ih =>
    cases p with
    | seq k id => simp [adjust, ih]
    | lit s => simp only [adjust, List.drop_zero, ih]; split <;> rfl

theorem indentOf_le_length (sp : Char → Bool) (s : List Char) : indentOf sp s ≤ s.length := by
  induction s with
  | nil => exact Nat.le_refl 0
  | cons c s ih => rw [indentOf_cons]; split <;> simp [ih]

theorem indentOf_drop (sp : Char → Bool) (s : List Char) (m : Nat) (h : m ≤ indentOf sp s) :
    indentOf sp (s.drop m) = indentOf sp s - m := by
  induction s generalizing m with
  | nil => simp [indentOf]
  | cons c s ih =>
    cases m with
    | zero => simp
    | succ m =>
      obtain ⟨hc, h⟩ := succ_le_indentOf_cons h
      simp [indentOf_cons, hc, ih m h]

theorem all_drop_of_indent (sp : Char → Bool) (s : List Char) (m : Nat) (h : m ≤ indentOf sp s) :
    (s.drop m).all sp = s.all sp := by
  induction s generalizing m with
  | nil => simp
  | cons c s ih =>
    cases m with
    | zero => rfl
    | succ m =>
      obtain ⟨hc, h⟩ := succ_le_indentOf_cons h
      simp [hc, ih m h]

theorem indent_eq_length_of_all (sp : Char → Bool) (s : List Char) (h : s.all sp = true) :
    indentOf sp s = s.length := by
  induction s with
  | nil => rfl
  | cons c s ih =>
    simp only [List.all_cons, Bool.and_eq_true] at h
    simp [indentOf_cons, h.1, ih h.2]

theorem all_of_indent_eq_length (sp : Char → Bool) (s : List Char) (h : indentOf sp s = s.length) :
    s.all sp = true := by
  induction s with
  | nil => rfl
  | cons c s ih =>
    obtain ⟨hc, h'⟩ := succ_le_indentOf_cons (Nat.le_of_eq h.symm)
    simp [hc, ih (Nat.le_antisymm (indentOf_le_length sp s) h')]

theorem endsNl_drop (sp : Char → Bool) (s : List Char) (m : Nat) (h : m ≤ indentOf sp s)
    (hb : isBlankLine sp s = false) : endsNl (s.drop m) = endsNl s := by
  by_cases hlt : m < s.length
  · unfold endsNl
    rw [List.getLast?_drop]
    simp [Nat.not_le.mpr hlt]
  · have hlen := indentOf_le_length sp s
    have hm : m = s.length := by omega
    have hall : s.all sp = true := all_of_indent_eq_length sp s (by omega)
    have : endsNl s = false := by
      simp only [isBlankLine, hall, Bool.true_and] at hb; exact hb
    subst hm
    rw [this]
    simp [endsNl]

theorem isBlankLine_drop (sp : Char → Bool) (s : List Char) (m : Nat) (h : m ≤ indentOf sp s)
    (hb : isBlankLine sp s = false) : isBlankLine sp (s.drop m) = false := by
  have h1 := endsNl_drop sp s m h hb
  have h2 := all_drop_of_indent sp s m h
  unfold isBlankLine at hb ⊢
  rw [h1, h2]; exact hb

theorem omin_map_sub (a b : Option Nat) (m : Nat) :
    omin (a.map (· - m)) (b.map (· - m)) = (omin a b).map (· - m) := by
  cases a with
  | none => cases b <;> rfl
  | some x =>
    cases b with
    | none => rfl
    | some y => exact congrArg some (Nat.sub_min_sub_right x y m)

theorem minIndent_adjust (sp : Char → Bool) (m : Nat) (nl : Bool) (ps : List Part)
    (h : ∀ x, minIndent sp nl ps = some x → m ≤ x) :
    minIndent sp nl (adjust sp m nl ps) = (minIndent sp nl ps).map (· - m) := by
  induction ps generalizing nl with
  | nil => rfl
  | cons p rest ih =>
    obtain ⟨hhere, hrest⟩ := le_of_le_omin (a := if nl then lineIndent sp p else none)
      (b := minIndent sp (nextNl p) rest) h
    -- the head keeps its line end, and what it counts for drops by `m`; the rest is `ih`
    simp only [minIndent, ← omin_map_sub]
    cases p with
    | seq k id =>
      simp only [adjust, minIndent, ih _ hrest]
      cases nl <;> simp [lineIndent]
    | lit s =>
      by_cases hc : (nl && !isBlankLine sp s) = true
      · have hm : m ≤ indentOf sp s := hhere _ (by rw [counted_lit, if_pos hc])
        have hb : isBlankLine sp s = false := by
          simp only [Bool.and_eq_true, Bool.not_eq_true'] at hc; exact hc.2
        have hnl : nextNl (.lit (s.drop m)) = nextNl (.lit s) := endsNl_drop sp s m hm hb
        have hc' : (nl && !isBlankLine sp (s.drop m)) = true := by rwa [isBlankLine_drop sp s m hm hb, ← hb]
        simp only [adjust, if_pos hc, minIndent, counted_lit, if_pos hc', hnl, ih _ hrest, indentOf_drop sp s m hm,
          Option.map_some]
      · simp only [adjust, if_neg hc, minIndent, counted_lit, ih _ hrest, Option.map_none]

/-- Flushing is idempotent: after the smallest indentation has been removed, the smallest indentation is 0. -/
theorem flush_idem (sp : Char → Bool) (ps : List Part) : flush sp (flush sp ps) = flush sp ps := by
  unfold flush
  cases hm : minIndent sp true ps with
  | none => simp [hm]
  | some m =>
    have h := minIndent_adjust sp m true ps (by intro x hx; rw [hm] at hx; cases hx; exact Nat.le_refl _)
    simp only [h, hm, Option.map_some, Nat.sub_self, adjust_zero]

end HclModel.Template.Proofs
