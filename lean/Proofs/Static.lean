import HclModel.Expr.Static
import Proofs.FreeVars
import Proofs.ValueAccess
/-!
C20 (static analysis): an expression that is statically a traversal evaluates to what the traversal yields
when applied to the scope — up to one extra diagnostic for a null literal key applied after a failed step.
-/
namespace HclModel

def Trav.noNullKeys (t : Trav) : Bool :=
  t.steps.all fun s => match s with | .index k => !k.isNull | .attr _ => true

namespace Proofs

theorem hasErrors_false_iff (ds : List Diag) : hasErrors ds = false ↔ ds = [] := by
  cases ds <;> simp [hasErrors]

theorem hasErrors_append_left (ds ds' : List Diag) (h : hasErrors ds = true) : hasErrors (ds ++ ds') = true := by
  cases ds <;> simp_all [hasErrors]

def stepOut (kk : Bool) (v : Val) : Step → Out
  | .attr n => getAttr v n
  | .index k => index kk v k

/-- a failing step yields `cty.DynamicVal` -/
def Good (o : Out) : Prop := hasErrors o.2 = true → o.1 = Val.dynVal

theorem good_nil (v : Val) : Good (v, []) := fun h => by simp [hasErrors] at h
theorem good_dyn (ds : List Diag) : Good (Val.dynVal, ds) := fun _ => rfl

theorem Access.good {coll : Val} {K : Fl → Prop} {o : Out} (h : Access coll K o) : Good o := by
  cases h with
  | fail d => exact good_dyn _
  | elem | unk | dyn => exact good_nil _

theorem stepOut_good (kk : Bool) (v : Val) (s : Step) : Good (stepOut kk v s) := by
  cases s with
  | attr n => exact (getAttr_access v n).good
  | index k => exact (index_access kk v k).good

theorem dynVal_isNull : Val.dynVal.isNull = false := rfl
theorem dynVal_typeOf_dyn : (Val.dynVal.typeOf == Ty.dyn) = true := rfl
theorem dynVal_withFl : Val.dynVal.withFl Val.dynVal.fl = Val.dynVal := rfl

theorem index_dynVal (kk : Bool) (k : Val) (hk : k.isNull = false) : index kk Val.dynVal k = (Val.dynVal, []) :=
  index_dyn (coll := Val.dynVal) rfl hk (.inr rfl)

theorem index_dyn_val (kk : Bool) (k : Val) : (index kk Val.dynVal k).1 = Val.dynVal := by
  cases hk : k.isNull
  · rw [index_dynVal kk k hk]
  · unfold index
    simp [dynVal_isNull, hk, errOut]

theorem traverseRel_cons_aux (kk : Bool) (steps : List Step) (X : Out) (hg : Good X) :
    (if hasErrors X.2 = true then (Val.dynVal, X.2) else traverseRel kk X.1 X.2 steps) =
      if hasErrors X.2 = true then X else traverseRel kk X.1 [] steps := by
  by_cases h : hasErrors X.2 = true
  · simp only [h, if_true]
    exact Prod.ext (hg h).symm rfl
  · have : X.2 = [] := (hasErrors_false_iff _).1 (by simpa using h)
    simp [this, hasErrors]

theorem traverseRel_cons (kk : Bool) (v : Val) (s : Step) (steps : List Step) :
    traverseRel kk v [] (s :: steps) =
      if hasErrors (stepOut kk v s).2 then stepOut kk v s else traverseRel kk (stepOut kk v s).1 [] steps := by
  have := traverseRel_cons_aux kk steps _ (stepOut_good kk v s)
  cases s
  all_goals
    simp only [traverseRel, stepOut, List.nil_append] at this ⊢
    exact this

theorem traverseRel_good (kk : Bool) : ∀ (steps : List Step) (v : Val),
    hasErrors (traverseRel kk v [] steps).2 = true → (traverseRel kk v [] steps).1 = Val.dynVal
  | [], v, h => by simp [traverseRel, hasErrors] at h
  | s :: steps, v, h => by
    rw [traverseRel_cons] at h ⊢
    by_cases hs : hasErrors (stepOut kk v s).2 = true
    · simp only [hs, if_true] at h ⊢
      exact stepOut_good kk v s hs
    · simp only [hs] at h ⊢
      exact traverseRel_good kk steps _ h

theorem traverseRel_snoc (kk : Bool) (s : Step) : ∀ (steps : List Step) (v : Val),
    traverseRel kk v [] (steps ++ [s]) =
      if hasErrors (traverseRel kk v [] steps).2 then traverseRel kk v [] steps
      else stepOut kk (traverseRel kk v [] steps).1 s
  | [], v => by
    rw [List.nil_append, traverseRel_cons]
    have h0 : traverseRel kk v [] [] = (v, []) := by simp [traverseRel]
    have h1 : hasErrors ([] : List Diag) = false := rfl
    rw [h0]
    simp only [h1, Bool.false_eq_true, if_false]
    by_cases hs : hasErrors (stepOut kk v s).2 = true
    · simp only [hs, if_true]
    · have : (stepOut kk v s).2 = [] := (hasErrors_false_iff _).1 (by simpa using hs)
      simp only [hs, Bool.false_eq_true, if_false]
      exact Prod.ext rfl this.symm
  | s0 :: steps, v => by
    rw [List.cons_append, traverseRel_cons, traverseRel_cons]
    by_cases hs : hasErrors (stepOut kk v s0).2 = true
    · simp [hs]
    · simp only [hs]
      exact traverseRel_snoc kk s steps _

/-- `traverseAbs` with the traversal taken apart -/
def travOut (F : Cx) (ρ : Env) (root : String) (steps : List Step) : Out :=
  match ρ.lookup root with
  | none => errOut "Unknown variable"
  | some v => traverseRel F.keepKeyMarks v [] steps

theorem travOut_good (F : Cx) (ρ : Env) (root : String) (steps : List Step)
    (h : hasErrors (travOut F ρ root steps).2 = true) : (travOut F ρ root steps).1 = Val.dynVal := by
  unfold travOut at h ⊢
  cases hl : ρ.lookup root with
  | none => simp [errOut]
  | some v => simp only [hl] at h ⊢; exact traverseRel_good _ steps v h

theorem travOut_snoc (F : Cx) (ρ : Env) (root : String) (steps : List Step) (s : Step) :
    travOut F ρ root (steps ++ [s]) =
      if hasErrors (travOut F ρ root steps).2 then travOut F ρ root steps
      else stepOut F.keepKeyMarks (travOut F ρ root steps).1 s := by
  unfold travOut
  cases hl : ρ.lookup root with
  | none => simp [errOut, hasErrors]
  | some v => simp only []; exact traverseRel_snoc _ s steps v

private theorem eval_var_trav (F : Cx) (ρ : Env) (x : String) :
    eval F ρ (.var x) = travOut F ρ x [] := by
  rw [eval_unfold]; unfold eval._sunfold travOut
  simp only []
  cases hl : ρ.lookup x <;> simp [traverseRel]

private theorem eval_getAttr_ite (F : Cx) (ρ : Env) (e : Expr) (n : String) :
    eval F ρ (.getAttr e n) =
      if hasErrors (eval F ρ e).2 then (Val.dynVal, (eval F ρ e).2)
      else ((getAttr (eval F ρ e).1 n).1, (eval F ρ e).2 ++ (getAttr (eval F ρ e).1 n).2) := by
  rw [eval_unfold]; unfold eval._sunfold; rfl

private theorem eval_index_lit (F : Cx) (ρ : Env) (e : Expr) (k : Val) :
    eval F ρ (.index e (.lit k)) =
      ((index F.keepKeyMarks (eval F ρ e).1 k).1, (eval F ρ e).2 ++ (index F.keepKeyMarks (eval F ρ e).1 k).2) := by
  rw [eval_unfold]; unfold eval._sunfold
  have : eval F ρ (.lit k) = (k, []) := rfl
  simp [this]

def nnSteps (steps : List Step) : Bool :=
  steps.all fun s => match s with | .index k => !k.isNull | .attr _ => true

/-- what holds between evaluation (`A`) and traversal (`T`): same value, same error presence, and the same
    diagnostics when no null literal key occurs (`nn`) -/
structure Agree (A T : Out) (nn : Bool) : Prop where
  val : A.1 = T.1
  err : hasErrors A.2 = hasErrors T.2
  exact : nn = true → A.2 = T.2

theorem agree_ok {A T : Out} {b : Bool} (ih : Agree A T b) (hT : ¬ hasErrors T.2 = true) :
    A = T ∧ T.2 = [] := by
  have hT' : T.2 = [] := (hasErrors_false_iff _).1 (by simpa using hT)
  have hA' : A.2 = [] := (hasErrors_false_iff _).1 (by rw [ih.err]; simpa using hT)
  exact ⟨Prod.ext ih.val (hA'.trans hT'.symm), hT'⟩

theorem step_attr (A T : Out) (b b' : Bool) (hb : b' = true → b = true) (hg : Good T) (ih : Agree A T b)
    (n : String) :
    Agree (if hasErrors A.2 then (Val.dynVal, A.2) else ((getAttr A.1 n).1, A.2 ++ (getAttr A.1 n).2))
      (if hasErrors T.2 then T else getAttr T.1 n) b' := by
  by_cases hT : hasErrors T.2 = true
  · have hA : hasErrors A.2 = true := by rw [ih.err]; exact hT
    simp only [hA, hT, if_true]
    exact ⟨(hg hT).symm, ih.err, fun h => ih.exact (hb h)⟩
  · obtain ⟨hAT, hT2⟩ := agree_ok ih hT
    subst hAT
    simp only [hT2, List.nil_append]
    exact ⟨rfl, rfl, fun _ => rfl⟩

theorem step_index (kk : Bool) (A T : Out) (b b' : Bool) (k : Val)
    (hb : b' = true → b = true ∧ k.isNull = false) (hg : Good T) (ih : Agree A T b) :
    Agree ((index kk A.1 k).1, A.2 ++ (index kk A.1 k).2)
      (if hasErrors T.2 then T else index kk T.1 k) b' := by
  by_cases hT : hasErrors T.2 = true
  · have hA : hasErrors A.2 = true := by rw [ih.err]; exact hT
    have hv : A.1 = Val.dynVal := ih.val.trans (hg hT)
    simp only [hT, if_true, hv]
    refine ⟨(index_dyn_val kk k).trans (hg hT).symm, ?_, ?_⟩
    · rw [hasErrors_append_left _ _ hA, hT]
    · intro h
      obtain ⟨h1, h2⟩ := hb h
      rw [index_dynVal kk k h2, List.append_nil]
      exact ih.exact h1
  · obtain ⟨hAT, hT2⟩ := agree_ok ih hT
    subst hAT
    simp only [hT2, List.nil_append]
    exact ⟨rfl, rfl, fun _ => rfl⟩

theorem nnSteps_snoc (steps : List Step) (s : Step) :
    nnSteps (steps ++ [s]) = (nnSteps steps && match s with | .index k => !k.isNull | .attr _ => true) := by
  simp [nnSteps, List.all_append]

theorem trav_core (F : Cx) (ρ : Env) (e : Expr) : ∀ (root : String) (steps : List Step),
    asTraversal e = some ⟨root, steps⟩ → Agree (eval F ρ e) (travOut F ρ root steps) (nnSteps steps) := by
  fun_induction asTraversal e with
  | case1 x =>
    intro root steps h
    simp only [Option.some.injEq, Trav.mk.injEq] at h
    obtain ⟨rfl, rfl⟩ := h
    rw [eval_var_trav]
    exact ⟨rfl, rfl, fun _ => rfl⟩
  | case2 e n ih =>
    intro root steps h
    simp only [Option.map_eq_some_iff, Trav.mk.injEq] at h
    obtain ⟨⟨r0, st0⟩, h0, rfl, rfl⟩ := h
    rw [eval_getAttr_ite, travOut_snoc]
    exact step_attr _ _ _ _ (by rw [nnSteps_snoc]; simp) (travOut_good F ρ r0 st0) (ih r0 st0 h0) n
  | case3 e k ih =>
    intro root steps h
    simp only [Option.map_eq_some_iff, Trav.mk.injEq] at h
    obtain ⟨⟨r0, st0⟩, h0, rfl, rfl⟩ := h
    rw [eval_index_lit, travOut_snoc]
    exact step_index _ _ _ _ _ k (by rw [nnSteps_snoc]; simp) (travOut_good F ρ r0 st0) (ih r0 st0 h0)
  | case4 => intro _ _ h; cases h

theorem traverseAbs_eq (F : Cx) (ρ : Env) (t : Trav) : traverseAbs F ρ t = travOut F ρ t.root t.steps := rfl

/-- value and error presence always agree -/
theorem traversal_agrees (F : Cx) (e : Expr) (t : Trav) (h : asTraversal e = some t) (ρ : Env) :
    (eval F ρ e).1 = (traverseAbs F ρ t).1 ∧
      hasErrors (eval F ρ e).2 = hasErrors (traverseAbs F ρ t).2 := by
  have := trav_core F ρ e t.root t.steps h
  exact ⟨this.val, this.err⟩

/-- without null literal keys, the diagnostics agree as well -/
theorem traversal_agrees_exact (F : Cx) (e : Expr) (t : Trav) (h : asTraversal e = some t)
    (hn : t.noNullKeys = true) (ρ : Env) : eval F ρ e = traverseAbs F ρ t := by
  have := trav_core F ρ e t.root t.steps h
  exact Prod.ext this.val (this.exact hn)

/-- without errors, they agree as well -/
theorem traversal_agrees_ok (F : Cx) (e : Expr) (t : Trav) (h : asTraversal e = some t) (ρ : Env)
    (hok : hasErrors (traverseAbs F ρ t).2 = false) : eval F ρ e = traverseAbs F ρ t := by
  have := trav_core F ρ e t.root t.steps h
  exact (agree_ok this (by rw [← traverseAbs_eq]; simp [hok])).1

/-- The diagnostics can differ: `x.missing[null]` where `x` is an object without `missing`.  The traversal
    stops at the failing attribute step; evaluation goes on to `hcl.Index` with the null key, which reports
    a second error. -/
theorem traversal_diags_differ :
    let F : Cx := { funcs := fun _ => none }
    let ρ : Env := [("x", .object Fl.none [])]
    let e : Expr := .index (.getAttr (.var "x") "missing") (.lit (.null Fl.none .dyn))
    let t : Trav := ⟨"x", [.attr "missing", .index (.null Fl.none .dyn)]⟩
    asTraversal e = some t ∧ (eval F ρ e).2.length = 2 ∧ (traverseAbs F ρ t).2.length = 1 := by
  refine ⟨rfl, ?_, ?_⟩ <;> decide

theorem static_list_parts (F : Cx) (e : Expr) (es : List Expr) (h : exprList e = some es) (ρ : Env) :
    eval F ρ e = (.tuple Fl.none (evalList F ρ es).1, (evalList F ρ es).2) := by
  cases e <;> simp [exprList] at h
  subst h
  rw [eval_unfold]; unfold eval._sunfold; rfl

end Proofs
end HclModel
