import Proofs.TaintCall
import Proofs.TaintEnv
/-!
C19: the analysis is sound (`sound`): in a scope that exposes no taint outside `L`, an expression accepted by
`vclean L` has a value that exposes none, and one accepted by `fclean L` has diagnostics that echo nothing tainted.
-/
namespace HclModel.Proofs
open Val

/-- the optional condition of a `for`, as the evaluator hands it to the loop -/
theorem forall_map_some {α β : Type} {o : Option α} {f : α → β} {Q : β → Prop} (h : ∀ a, o = some a → Q (f a)) :
    ∀ b, o.map f = some b → Q b := by
  intro b hb
  obtain ⟨a, rfl, rfl⟩ := Option.map_eq_some_iff.mp hb
  exact h a rfl

theorem forTuple_tw (C : Cx) (ρ : Env) (L : List String) (kv vv : String) (coll val : Expr) (cond : Option Expr)
    (hρ : envOK L ρ) (ihc : tw false (eval C ρ coll).1 = true)
    (ihv : ∀ ρ', envOK (dropIter kv vv L) ρ' → tw false (eval C ρ' val).1 = true)
    (ihce : ∀ ce, cond = some ce → ∀ ρ', envOK (dropIter kv vv L) ρ' → tw false (eval C ρ' ce).1 = true) :
    tw false (eval C ρ (.forTuple kv vv coll val cond)).1 = true := by
  rw [eval_forTuple]
  refine forOut_tw _ _ _ _ ihc
    (forall_map_some fun ce hce => ihce ce hce _ (envOK_bindIter_clean kv vv hρ (tw_dynVal _) (tw_dynVal _))) ?_
    fun st h => forTupleFin_tw h
  · intro els hels st p hp hinv
    have hρ' := envOK_iter (kv := kv) (vv := vv) hρ ihc hels hp
    exact (VInv_kept _).forTuple _ _ p hinv trivial (hρ'.imp id (ihv _))
      (forall_map_some fun ce hce => ⟨trivial, hρ'.imp id fun h => tw_flOK (ihce ce hce _ h)⟩)

theorem forObject_tw (C : Cx) (ρ : Env) (L : List String) (kv vv : String) (coll key val : Expr)
    (cond : Option Expr) (g : Bool)
    (hρ : envOK L ρ) (ihc : tw false (eval C ρ coll).1 = true)
    (ihk : ∀ ρ', envOK (dropIter kv vv L) ρ' → tw false (eval C ρ' key).1 = true)
    (ihv : ∀ ρ', envOK (dropIter kv vv L) ρ' → tw false (eval C ρ' val).1 = true)
    (ihce : ∀ ce, cond = some ce → ∀ ρ', envOK (dropIter kv vv L) ρ' → tw false (eval C ρ' ce).1 = true) :
    tw false (eval C ρ (.forObject kv vv coll key val cond g)).1 = true := by
  rw [eval_forObject]
  refine forOut_tw _ _ _ _ ihc
    (forall_map_some fun ce hce => ihce ce hce _ (envOK_bindIter_clean kv vv hρ (tw_dynVal _) (tw_dynVal _))) ?_
    fun st h => forObjectFin_tw g h
  · intro els hels st p hp hinv
    have hρ' := envOK_iter (kv := kv) (vv := vv) hρ ihc hels hp
    exact (VInv_kept _).forObject g _ _ _ p hinv trivial (hρ'.imp id fun h => tw_flOK (ihk _ h)) trivial
      (hρ'.imp id (ihv _)) (forall_map_some fun ce hce => ⟨trivial, hρ'.imp id fun h => tw_flOK (ihce ce hce _ h)⟩)
      fun _ st' k h' _ => h'

theorem splat_tw (C : Cx) (ρ : Env) (L : List String) (anon : String) (src each : Expr)
    (hρ : envOK L ρ) (ihs : tw false (eval C ρ src).1 = true)
    (ihe : ∀ ρ', envOK (L.filter (· != anon)) ρ' → tw false (eval C ρ' each).1 = true) :
    tw false (eval C ρ (.splat anon src each)).1 = true := by
  rw [eval_splat]
  apply splatOut_tw _ _ _ ihs
  cases hm : (eval C ρ src).1.fl.m
  · right
    intro it hit
    apply ihe
    apply envOK_cons_clean anon hρ
    have h2 := splatSrc_tw ihs
    have h3 := splatItems_tw (tw_unmark h2) it hit
    rw [splatSrc_fl, hm] at h3
    simpa using h3
  · left; rfl

theorem forTuple_frags (C : Cx) (ρ : Env) (Lb : List String) (kv vv : String) (coll val : Expr) (cond : Option Expr)
    (hprobe : envOK Lb (bindIter ρ kv vv Val.dynVal Val.dynVal))
    (hels : ∀ els, elements (eval C ρ coll).1.unmark.1 = some els → ∀ p ∈ els, envOK Lb (bindIter ρ kv vv p.1 p.2))
    (ihc : fragsClean (eval C ρ coll).2)
    (ihv : ∀ ρ', envOK Lb ρ' → fragsClean (eval C ρ' val).2)
    (ihce : ∀ ce, cond = some ce → ∀ ρ', envOK Lb ρ' → fragsClean (eval C ρ' ce).2) :
    fragsClean (eval C ρ (.forTuple kv vv coll val cond)).2 := by
  rw [eval_forTuple]
  refine forOut_frags _ _ _ _ ihc (forall_map_some fun ce hce => ihce ce hce _ hprobe) ?_ forTupleFin_diags
  intro els hels' st p hp hinv
  have hb := hels els hels' p hp
  exact (DInv_kept _).forTuple _ _ p hinv (ihv _ hb) trivial
    (forall_map_some fun ce hce => ⟨ihce ce hce _ hb, trivial⟩)

theorem forObject_frags (C : Cx) (ρ : Env) (L Lb : List String) (kv vv : String) (coll key val : Expr)
    (cond : Option Expr) (g : Bool) (hρ : envOK L ρ)
    (hprobe : envOK Lb (bindIter ρ kv vv Val.dynVal Val.dynVal))
    (hels : ∀ els, elements (eval C ρ coll).1.unmark.1 = some els → ∀ p ∈ els, envOK Lb (bindIter ρ kv vv p.1 p.2))
    (ihc : fragsClean (eval C ρ coll).2)
    (ihk : ∀ ρ', envOK Lb ρ' → fragsClean (eval C ρ' key).2)
    (ihv : ∀ ρ', envOK Lb ρ' → fragsClean (eval C ρ' val).2)
    (ihce : ∀ ce, cond = some ce → ∀ ρ', envOK Lb ρ' → fragsClean (eval C ρ' ce).2)
    (hkey : (g = true ∨ ∀ ρ', envOK (iterNames kv vv ++ L) ρ' → tw false (eval C ρ' key).1 = true) ∨
      (tw false (eval C ρ coll).1 = true ∧ ∀ ρ', envOK (dropIter kv vv L) ρ' → tw false (eval C ρ' key).1 = true)) :
    fragsClean (eval C ρ (.forObject kv vv coll key val cond g)).2 := by
  rw [eval_forObject]
  refine forOut_frags _ _ _ _ ihc (forall_map_some fun ce hce => ihce ce hce _ hprobe) ?_ (forObjectFin_diags g)
  intro els hels' st p hp hinv
  have hb := hels els hels' p hp
  refine (DInv_kept _).forObject g _ _ _ p hinv (ihk _ hb) trivial (ihv _ hb) trivial
    (forall_map_some fun ce hce => ⟨ihce ce hce _ hb, trivial⟩)
    fun hg st' k h' hkm => DInv_dup k h' hkm fun hgk => ?_
  rcases hkey with (hg' | hk) | ⟨hcoll, hk⟩
  · rw [hg] at hg'; cases hg'
  · exact Or.inr (tw_flOK (hk _ (envOK_bindIter_any kv vv _ _ hρ)) hgk)
  · exact (envOK_iter hρ hcoll hels' hp).imp id fun h => tw_flOK (hk _ h) hgk

theorem splat_frags (C : Cx) (ρ : Env) (L : List String) (anon : String) (src each : Expr)
    (hρ : envOK L ρ) (ihs : fragsClean (eval C ρ src).2)
    (ihe : ∀ ρ', envOK (anon :: L) ρ' → fragsClean (eval C ρ' each).2) :
    fragsClean (eval C ρ (.splat anon src each)).2 := by
  rw [eval_splat]
  exact splatOut_frags _ _ _ ihs (fun it => ihe _ (envOK_cons_any anon it hρ))

theorem staticUnmarked_sound (C : Cx) (ρ : Env) (e : Expr) (h : staticUnmarked e = true) :
    (eval C ρ e).1.fl.m = false := by
  cases e <;> simp only [staticUnmarked] at h <;> (try (cases h; done))
  · rw [eval_lit]; simpa using h
  · rw [eval_tuple]; rfl

theorem bodyVars_env {C : Cx} {ρ : Env} {coll : Expr} (L : List String) (kv vv : String) (hρ : envOK L ρ)
    (hc : vclean L coll = true → tw false (eval C ρ coll).1 = true) :
    envOK (bodyVars L kv vv coll) (bindIter ρ kv vv Val.dynVal Val.dynVal) ∧
    ∀ els, elements (eval C ρ coll).1.unmark.1 = some els → ∀ p ∈ els,
      envOK (bodyVars L kv vv coll) (bindIter ρ kv vv p.1 p.2) := by
  unfold bodyVars
  split
  · rename_i h
    simp only [Bool.and_eq_true] at h
    refine ⟨envOK_bindIter_clean kv vv hρ (tw_dynVal _) (tw_dynVal _), ?_⟩
    intro els hels p hp
    have hel := elements_tw (hc h.2) (staticUnmarked_sound C ρ coll h.1) hels p hp
    exact envOK_bindIter_clean kv vv hρ hel.1 hel.2
  · exact ⟨envOK_bindIter_any kv vv _ _ hρ, fun els _ p _ => envOK_bindIter_any kv vv _ _ hρ⟩

mutual
/-- Both claims in one induction: that of the diagnostics needs that of the values, of the collection of a `for`
    (`bodyVars`) and, in other scopes, of the key of an object `for`. -/
theorem sound (C : Cx) (hF : TaintFuncs C.funcs) : ∀ (e : Expr) (L : List String) (ρ : Env), envOK L ρ →
    (vclean L e = true → tw false (eval C ρ e).1 = true) ∧ (fclean L e = true → fragsClean (eval C ρ e).2)
  | .lit v, L, ρ, hρ => by
    rw [eval_lit]
    exact ⟨fun h => by simpa [vclean] using h, fun _ => fragsClean_nil⟩
  | .var x, L, ρ, hρ => by
    rw [eval_var]
    split
    · rename_i v hv
      exact ⟨fun h => hρ x v hv (by simpa [vclean] using h), fun _ => fragsClean_nil⟩
    · exact ⟨fun _ => tw_dynVal _, fun _ => fragsClean_free (frags_errOut _)⟩
  | .getAttr e name, L, ρ, hρ => by
    have ih := sound C hF e L ρ hρ
    simp only [vclean, fclean]
    rw [eval_getAttr]
    exact ⟨fun h => getAttrOut_tw _ _ (ih.1 h), fun h => fragsClean_of_NoNew (getAttrOut_NoNew _ _) (ih.2 h)⟩
  | .index e k, L, ρ, hρ => by
    have ihe := sound C hF e L ρ hρ
    have ihk := sound C hF k L ρ hρ
    simp only [vclean, fclean, Bool.and_eq_true]
    rw [eval_index]
    exact ⟨fun h => indexOut_tw _ _ _ (ihe.1 h.1) (ihk.1 h.2),
      fun h => fragsClean_of_NoNew (indexOut_NoNew _ _ _) (fragsClean_append (ihe.2 h.1) (ihk.2 h.2))⟩
  | .bin op l r, L, ρ, hρ => by
    have ihl := sound C hF l L ρ hρ
    have ihr := sound C hF r L ρ hρ
    simp only [vclean, fclean, Bool.and_eq_true]
    rw [eval_bin]
    exact ⟨fun h => evalBin_tw _ _ _ _ (ihl.1 h.1) (ihr.1 h.2),
      fun h => fragsClean_of_NoNew (evalBin_NoNew _ _ _ _) (fragsClean_append (ihl.2 h.1) (ihr.2 h.2))⟩
  | .un op e, L, ρ, hρ => by
    have ih := sound C hF e L ρ hρ
    simp only [vclean, fclean]
    rw [eval_un]
    exact ⟨fun h => evalUn_tw _ _ (ih.1 h), fun h => fragsClean_of_NoNew (evalUn_NoNew _ _) (ih.2 h)⟩
  | .cond c t f, L, ρ, hρ => by
    have ihc := sound C hF c L ρ hρ
    have iht := sound C hF t L ρ hρ
    have ihf := sound C hF f L ρ hρ
    simp only [vclean, fclean, Bool.and_eq_true]
    rw [eval_cond]
    exact ⟨fun h => evalCond_tw _ _ _ _ (ihc.1 h.1.1) (iht.1 h.1.2) (ihf.1 h.2),
      fun h => fragsClean_of_NoNew (evalCond_NoNew _ _ _ _)
        (fragsClean_append (fragsClean_append (ihc.2 h.1.1) (iht.2 h.1.2)) (ihf.2 h.2))⟩
  | .tuple es, L, ρ, hρ => by
    have ih := soundList C hF es L ρ hρ
    simp only [vclean, fclean]
    rw [eval_tuple]
    exact ⟨fun h => tw_tuple_of flOK_none (Or.inr (ih.1 h)), ih.2⟩
  | .object items, L, ρ, hρ => by
    have ih := soundItems C hF items L ρ hρ
    simp only [vclean, fclean]
    rw [eval_object, objectOut_diags]
    exact ⟨fun h => objectOut_tw (ih.1 h), ih.2⟩
  | .forTuple kv vv coll val none, L, ρ, hρ => by
    have ihc := sound C hF coll L ρ hρ
    have ihv := sound C hF val
    have hb := bodyVars_env L kv vv hρ ihc.1
    simp only [vclean, fclean, Bool.and_eq_true, Bool.and_true]
    exact ⟨fun h => forTuple_tw C ρ L kv vv coll val none hρ (ihc.1 h.1) (fun ρ' hρ' => (ihv _ ρ' hρ').1 h.2)
        (fun ce hce => by cases hce),
      fun h => forTuple_frags C ρ _ kv vv coll val none hb.1 hb.2 (ihc.2 h.1) (fun ρ' hρ' => (ihv _ ρ' hρ').2 h.2)
        (fun ce hce => by cases hce)⟩
  | .forTuple kv vv coll val (some ce), L, ρ, hρ => by
    have ihc := sound C hF coll L ρ hρ
    have ihv := sound C hF val
    have ihce := sound C hF ce
    have hb := bodyVars_env L kv vv hρ ihc.1
    simp only [vclean, fclean, Bool.and_eq_true]
    exact ⟨fun h => forTuple_tw C ρ L kv vv coll val (some ce) hρ (ihc.1 h.1.1)
        (fun ρ' hρ' => (ihv _ ρ' hρ').1 h.1.2) (fun ce' hce ρ' hρ' => by cases hce; exact (ihce _ ρ' hρ').1 h.2),
      fun h => forTuple_frags C ρ _ kv vv coll val (some ce) hb.1 hb.2 (ihc.2 h.1.1)
        (fun ρ' hρ' => (ihv _ ρ' hρ').2 h.1.2) (fun ce' hce ρ' hρ' => by cases hce; exact (ihce _ ρ' hρ').2 h.2)⟩
  | .forObject kv vv coll key val none g, L, ρ, hρ => by
    have ihc := sound C hF coll L ρ hρ
    have ihk := sound C hF key
    have ihv := sound C hF val
    have hb := bodyVars_env L kv vv hρ ihc.1
    simp only [vclean, fclean, Bool.and_eq_true, Bool.and_true, Bool.or_eq_true]
    exact ⟨fun h => forObject_tw C ρ L kv vv coll key val none g hρ (ihc.1 h.1.1)
        (fun ρ' hρ' => (ihk _ ρ' hρ').1 h.1.2) (fun ρ' hρ' => (ihv _ ρ' hρ').1 h.2) (fun ce hce => by cases hce),
      fun h => forObject_frags C ρ L _ kv vv coll key val none g hρ hb.1 hb.2 (ihc.2 h.1.1.1)
        (fun ρ' hρ' => (ihk _ ρ' hρ').2 h.1.1.2) (fun ρ' hρ' => (ihv _ ρ' hρ').2 h.1.2) (fun ce hce => by cases hce)
        (h.2.imp (Or.imp_right fun hk ρ' hρ' => (ihk _ ρ' hρ').1 hk)
          fun hk => ⟨ihc.1 hk.1, fun ρ' hρ' => (ihk _ ρ' hρ').1 hk.2⟩)⟩
  | .forObject kv vv coll key val (some ce) g, L, ρ, hρ => by
    have ihc := sound C hF coll L ρ hρ
    have ihk := sound C hF key
    have ihv := sound C hF val
    have ihce := sound C hF ce
    have hb := bodyVars_env L kv vv hρ ihc.1
    simp only [vclean, fclean, Bool.and_eq_true, Bool.or_eq_true]
    exact ⟨fun h => forObject_tw C ρ L kv vv coll key val (some ce) g hρ (ihc.1 h.1.1.1)
        (fun ρ' hρ' => (ihk _ ρ' hρ').1 h.1.1.2) (fun ρ' hρ' => (ihv _ ρ' hρ').1 h.1.2)
        (fun ce' hce ρ' hρ' => by cases hce; exact (ihce _ ρ' hρ').1 h.2),
      fun h => forObject_frags C ρ L _ kv vv coll key val (some ce) g hρ hb.1 hb.2 (ihc.2 h.1.1.1.1)
        (fun ρ' hρ' => (ihk _ ρ' hρ').2 h.1.1.1.2) (fun ρ' hρ' => (ihv _ ρ' hρ').2 h.1.1.2)
        (fun ce' hce ρ' hρ' => by cases hce; exact (ihce _ ρ' hρ').2 h.1.2)
        (h.2.imp (Or.imp_right fun hk ρ' hρ' => (ihk _ ρ' hρ').1 hk)
          fun hk => ⟨ihc.1 hk.1, fun ρ' hρ' => (ihk _ ρ' hρ').1 hk.2⟩)⟩
  | .splat anon src each, L, ρ, hρ => by
    have ihs := sound C hF src L ρ hρ
    have ihe := sound C hF each
    simp only [vclean, fclean, Bool.and_eq_true]
    exact ⟨fun h => splat_tw C ρ L anon src each hρ (ihs.1 h.1) (fun ρ' hρ' => (ihe _ ρ' hρ').1 h.2),
      fun h => splat_frags C ρ L anon src each hρ (ihs.2 h.1) (fun ρ' hρ' => (ihe _ ρ' hρ').2 h.2)⟩
  | .template parts, L, ρ, hρ => by
    have ih := soundEach C hF parts L ρ hρ
    simp only [vclean, fclean]
    rw [eval_template]
    exact ⟨fun h => template_tw _ (ih.1 h), fun h => template_frags _ (ih.2 h)⟩
  | .tjoin t, L, ρ, hρ => by
    have ih := sound C hF t L ρ hρ
    simp only [vclean, fclean]
    rw [eval_tjoin]
    exact ⟨fun h => tjoinOut_tw _ (ih.1 h), fun h => tjoinOut_frags _ (ih.2 h)⟩
  | .call fn args none, L, ρ, hρ => by
    have iha := soundEach C hF args L ρ hρ
    simp only [vclean, fclean, Bool.and_true]
    rw [eval_call]
    split
    · exact ⟨fun _ => tw_dynVal _, fun _ => fragsClean_free (frags_errOut _)⟩
    · rename_i spec hs
      exact ⟨fun h => callOut_tw spec _ _ (by intro a ha; cases ha) (iha.1 h) (hF fn spec hs),
        fun h => callOut_frags spec _ _ fragsClean_nil (iha.2 h)⟩
  | .call fn args (some ex), L, ρ, hρ => by
    have iha := soundEach C hF args L ρ hρ
    have ihx := sound C hF ex L ρ hρ
    simp only [vclean, fclean, Bool.and_eq_true]
    rw [eval_call]
    split
    · exact ⟨fun _ => tw_dynVal _, fun _ => fragsClean_free (frags_errOut _)⟩
    · rename_i spec hs
      exact ⟨fun h => callOut_tw spec _ _ (expandOut_tw _ (ihx.1 h.2)) (iha.1 h.1) (hF fn spec hs),
        fun h => callOut_frags spec _ _ (expandOut_frags _ (ihx.2 h.2)) (iha.2 h.1)⟩
theorem soundList (C : Cx) (hF : TaintFuncs C.funcs) : ∀ (es : List Expr) (L : List String) (ρ : Env), envOK L ρ →
    (vcleanList L es = true → ∀ v ∈ (evalList C ρ es).1, tw false v = true) ∧
    (fcleanList L es = true → fragsClean (evalList C ρ es).2)
  | [], L, ρ, hρ => by simp [evalList, fragsClean_nil]
  | e :: es, L, ρ, hρ => by
    have ihe := sound C hF e L ρ hρ
    have ihs := soundList C hF es L ρ hρ
    simp only [vcleanList, fcleanList, Bool.and_eq_true]
    rw [evalList_cons]
    exact ⟨fun h => List.forall_mem_cons.mpr ⟨ihe.1 h.1, ihs.1 h.2⟩, fun h => fragsClean_append (ihe.2 h.1) (ihs.2 h.2)⟩
theorem soundEach (C : Cx) (hF : TaintFuncs C.funcs) : ∀ (es : List Expr) (L : List String) (ρ : Env), envOK L ρ →
    (vcleanList L es = true → ∀ o ∈ evalEach C ρ es, tw false o.1 = true) ∧
    (fcleanList L es = true → ∀ o ∈ evalEach C ρ es, fragsClean o.2)
  | [], L, ρ, hρ => by simp [evalEach]
  | e :: es, L, ρ, hρ => by
    have ihe := sound C hF e L ρ hρ
    have ihs := soundEach C hF es L ρ hρ
    simp only [vcleanList, fcleanList, Bool.and_eq_true]
    rw [evalEach_cons]
    exact ⟨fun h => List.forall_mem_cons.mpr ⟨ihe.1 h.1, ihs.1 h.2⟩,
      fun h => List.forall_mem_cons.mpr ⟨ihe.2 h.1, ihs.2 h.2⟩⟩
theorem soundItems (C : Cx) (hF : TaintFuncs C.funcs) : ∀ (items : List (Expr × Expr)) (L : List String) (ρ : Env),
    envOK L ρ → (vcleanItems L items = true → OInv (evalItems C ρ items)) ∧
      (fcleanItems L items = true → fragsClean (evalItems C ρ items).1.diags)
  | [], L, ρ, hρ => by simp only [evalItems]; exact ⟨fun _ => OInv_init, fun _ => fragsClean_nil⟩
  | (ke, ve) :: rest, L, ρ, hρ => by
    have ihk := sound C hF ke L ρ hρ
    have ihv := sound C hF ve L ρ hρ
    have ihr := soundItems C hF rest L ρ hρ
    simp only [vcleanItems, fcleanItems, Bool.and_eq_true]
    rw [evalItems_cons]
    exact ⟨fun h => itemStep_OInv (ihk.1 h.1.1) (ihv.1 h.1.2) (ihr.1 h.2),
      fun h => fragsClean_of_NoNew (itemStep_shape _ _ _).1
        (fragsClean_append (fragsClean_append (ihk.2 h.1.1) (ihv.2 h.1.2)) (ihr.2 h.2))⟩
end

theorem vsoundList (C : Cx) (hF : TaintFuncs C.funcs) : ∀ (es : List Expr) (L : List String) (ρ : Env), envOK L ρ →
    vcleanList L es = true → ∀ v ∈ (evalList C ρ es).1, tw false v = true :=
  fun es L ρ hρ => (soundList C hF es L ρ hρ).1

theorem vsoundEach (C : Cx) (hF : TaintFuncs C.funcs) : ∀ (es : List Expr) (L : List String) (ρ : Env), envOK L ρ →
    vcleanList L es = true → ∀ o ∈ evalEach C ρ es, tw false o.1 = true :=
  fun es L ρ hρ => (soundEach C hF es L ρ hρ).1

theorem vsoundItems (C : Cx) (hF : TaintFuncs C.funcs) : ∀ (items : List (Expr × Expr)) (L : List String) (ρ : Env),
    envOK L ρ → vcleanItems L items = true → OInv (evalItems C ρ items) :=
  fun items L ρ hρ => (soundItems C hF items L ρ hρ).1

theorem fsoundList (C : Cx) (hF : TaintFuncs C.funcs) : ∀ (es : List Expr) (L : List String) (ρ : Env), envOK L ρ →
    fcleanList L es = true → fragsClean (evalList C ρ es).2 :=
  fun es L ρ hρ => (soundList C hF es L ρ hρ).2

theorem fsoundEach (C : Cx) (hF : TaintFuncs C.funcs) : ∀ (es : List Expr) (L : List String) (ρ : Env), envOK L ρ →
    fcleanList L es = true → ∀ o ∈ evalEach C ρ es, fragsClean o.2 :=
  fun es L ρ hρ => (soundEach C hF es L ρ hρ).2

theorem fsoundItems (C : Cx) (hF : TaintFuncs C.funcs) : ∀ (items : List (Expr × Expr)) (L : List String) (ρ : Env),
    envOK L ρ → fcleanItems L items = true → fragsClean (evalItems C ρ items).1.diags :=
  fun items L ρ hρ => (soundItems C hF items L ρ hρ).2

end HclModel.Proofs
