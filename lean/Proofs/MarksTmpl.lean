import Proofs.MarksRel
/-!
C06: templates (`template`, `tjoin`) in two runs; before them the pointwise relation `All2` of two lists, through
which this file and those on the other loops compare two folds (`All2.foldl`).
-/
namespace HclModel.Proofs
open Val

/-- pointwise relation of two lists -/
inductive All2 {α β : Type} (R : α → β → Prop) : List α → List β → Prop
  | nil : All2 R [] []
  | cons {a b as bs} : R a b → All2 R as bs → All2 R (a :: as) (b :: bs)

theorem All2.foldl {α β σ τ : Type} {R : α → β → Prop} {I : σ → τ → Prop} {f : σ → α → σ} {g : τ → β → τ}
    {xs : List α} {ys : List β} (h : All2 R xs ys) (hstep : ∀ a b, R a b → ∀ s t, I s t → I (f s a) (g t b)) :
    ∀ s t, I s t → I (xs.foldl f s) (ys.foldl g t) := by
  induction h with
  | nil => exact fun _ _ hi => hi
  | cons hab _ ih => exact fun s t hi => ih _ _ (hstep _ _ hab s t hi)

theorem All2.length {α β : Type} {R : α → β → Prop} {xs : List α} {ys : List β} (h : All2 R xs ys) :
    xs.length = ys.length := by
  induction h with
  | nil => rfl
  | cons _ _ ih => simp [ih]

theorem All2.of_zip {α β : Type} {R Q : α → β → Prop} {xs : List α} {ys : List β} (h : All2 R xs ys) :
    (∀ p ∈ xs.zip ys, R p.1 p.2 → Q p.1 p.2) → All2 Q xs ys := by
  induction h with
  | nil => exact fun _ => .nil
  | cons hab _ ih => exact fun hq => .cons (hq (_, _) (by simp) hab) (ih fun p hp => hq p (by simp [hp]))

/-- the outputs of the two runs, value by value -/
def relOuts (outs outs' : List Out) : Prop := All2 (fun o o' => relV o.1 o'.1 = true) outs outs'

/-- the states of the template loop in the two runs: marked in both, or same `known` and same buffer -/
def TInv (st st' : TSt) : Prop :=
  (st.2.2.1.m = true ∧ st'.2.2.1.m = true) ∨ (st.2.1 = st'.2.1 ∧ st.2.2.2 = st'.2.2.2)

theorem tmplStep_inv {st st' : TSt} {o o' : Out} (hi : TInv st st') (ho : relV o.1 o'.1 = true)
    (h1 : (tmplStep st o).1 = []) (h2 : (tmplStep st' o').1 = []) : TInv (tmplStep st o) (tmplStep st' o') := by
  obtain ⟨-, -, -, c1⟩ := tmplStep_clean h1
  obtain ⟨-, -, -, c2⟩ := tmplStep_clean h2
  by_cases hb : (st.2.2.1.m = true ∧ st'.2.2.1.m = true) ∨ bm o.1 o'.1
  · -- the marks of the part are joined to those of the state, whatever the part is
    have hm : (tmplStep st o).2.2.1 = st.2.2.1.join o.1.fl := by rcases c1 with ⟨-, e⟩ | ⟨-, s, -, e⟩ <;> rw [e]
    have hm' : (tmplStep st' o').2.2.1 = st'.2.2.1.join o'.1.fl := by rcases c2 with ⟨-, e⟩ | ⟨-, s, -, e⟩ <;> rw [e]
    left
    rw [hm, hm']
    rcases hb with h | h <;> simp [h.1, h.2]
  · obtain ⟨hk, hbuf⟩ := hi.resolve_left fun h => hb (.inl h)
    have rc := relC_of_not_bm ho fun h => hb (.inr h)
    right
    rcases c1 with ⟨k1, e1⟩ | ⟨k1, s, t1, e1⟩ <;> rcases c2 with ⟨k2, e2⟩ | ⟨k2, s', t2, e2⟩ <;> rw [e1, e2]
    · exact ⟨rfl, hbuf⟩
    · rw [relC_isKnown rc, k2] at k1; cases k1
    · rw [relC_isKnown rc, k2] at k1; cases k1
    · -- neither part is marked: they convert to the same string
      have r := tryConvert_rel (relV_of_relC (a := o.1.unmark.1) (b := o'.1.unmark.1) (by simpa using rc)) t1 t2
      simp [relV] at r
      subst r
      exact ⟨hk, by simp only [hk, hbuf]⟩

theorem tmplOut_rel {st st' : TSt} (hi : TInv st st') : relV (tmplOut st).1 (tmplOut st').1 = true := by
  obtain ⟨ds, known, ms, buf⟩ := st
  obtain ⟨ds', known', ms', buf'⟩ := st'
  rcases hi with hi | ⟨hk, hb⟩
  · apply relV_top
    · unfold tmplOut; simp only []; split <;> simpa using hi.1
    · unfold tmplOut; simp only []; split <;> simpa using hi.2
  · simp only [] at hk hb; subst hk; subst hb
    unfold tmplOut; simp only []; split <;> simp [relV]

theorem template_rel {outs outs' : List Out} (hr : relOuts outs outs')
    (h1 : (tmplOut (outs.foldl tmplStep (([] : List Diag), true, Fl.none, ""))).2 = [])
    (h2 : (tmplOut (outs'.foldl tmplStep (([] : List Diag), true, Fl.none, ""))).2 = []) :
    relV (tmplOut (outs.foldl tmplStep (([] : List Diag), true, Fl.none, ""))).1
      (tmplOut (outs'.foldl tmplStep (([] : List Diag), true, Fl.none, ""))).1 = true := by
  rw [tmplOut_diags] at h1 h2
  -- the invariant of the fold: states that are still error-free are related
  refine tmplOut_rel (All2.foldl (I := fun st st' : TSt => st.1 = [] → st'.1 = [] → TInv st st') hr ?_ _ _
    (fun _ _ => Or.inr ⟨rfl, rfl⟩) h1 h2)
  intro o o' ho st st' hi d1 d2
  exact tmplStep_inv (hi (tmplStep_clean d1).1 (tmplStep_clean d2).1) ho d1 d2

theorem tjoinLoop_marked (tm : Fl) (htm : tm.m = true) : ∀ (xs : List Val) (ds : List Diag) (ms : Fl) (buf : String),
    ms.m = true → (tjoinLoop tm xs ds ms buf).1.fl.m = true
  | [], ds, ms, buf, h => by simpa [tjoinLoop] using h
  | x :: xs, ds, ms, buf, h => by
    rcases tjoinLoop_cons tm x xs ds ms buf with ⟨d, e⟩ | ⟨-, -, -, s, -, e⟩ | ⟨-, -, e⟩ <;> rw [e]
    · exact tjoinLoop_marked tm htm xs _ _ _ h
    · exact tjoinLoop_marked tm htm xs _ _ _ (by simp [h])
    · simp [htm]

theorem tjoinLoop_rel (tm tm' : Fl) : ∀ (xs xs' : List Val), relL xs xs' = true →
    (∀ p ∈ xs.zip xs', shapeEq p.1 p.2) → ∀ (ds ds' : List Diag) (ms ms' : Fl) (buf buf' : String),
    ((ms.m = true ∧ ms'.m = true) ∨ buf = buf') →
    (tjoinLoop tm xs ds ms buf).2 = [] → (tjoinLoop tm' xs' ds' ms' buf').2 = [] →
    relV (tjoinLoop tm xs ds ms buf).1 (tjoinLoop tm' xs' ds' ms' buf').1 = true
  | [], [], _, _, ds, ds', ms, ms', buf, buf', hi, _, _ => by
    simp only [tjoinLoop, relV]
    rcases hi with hi | hi <;> simp [hi]
  | [], _ :: _, h, _, _, _, _, _, _, _, _, _, _ => by simp [relL] at h
  | _ :: _, [], h, _, _, _, _, _, _, _, _, _, _ => by simp [relL] at h
  | x :: xs, x' :: xs', h, hs, ds, ds', ms, ms', buf, buf', hi, h1, h2 => by
    simp only [relL, Bool.and_eq_true] at h
    have hsx : shapeEq x x' := hs (x, x') (by simp)
    rcases (tjoinLoop_cons_clean h1).2 with ⟨g1, e1⟩ | ⟨d1, k1, s, c1, e1⟩ <;>
      rcases (tjoinLoop_cons_clean h2).2 with ⟨g2, e2⟩ | ⟨d2, k2, s', c2, e2⟩
    · rw [e1, e2]; simp [relV, withFl, setFl]
    · rw [hsx.1, hsx.2, d2, k2] at g1; simp at g1
    · rw [← hsx.1, ← hsx.2, d1, k1] at g2; simp at g2
    · rw [e1] at h1 ⊢
      rw [e2] at h2 ⊢
      refine tjoinLoop_rel tm tm' xs xs' h.2 (fun p hp => hs p (by simp [hp])) _ _ _ _ _ _ ?_ h1 h2
      -- the strings appended are the same, unless the two elements are marked
      have r := tryConvert_rel h.1 c1 c2
      simp only [relV, Bool.or_eq_true, Bool.and_eq_true, beq_iff_eq] at r
      rcases r with r | r
      · left; simp [r.1, r.2]
      · subst r
        rcases hi with hi | hi
        · left; simp [hi.1, hi.2]
        · right; rw [hi]

def tupleElems : Val → List Val
  | .tuple _ xs => xs
  | _ => []

theorem tupleElems_setFl (v : Val) (f : Fl) : tupleElems (v.setFl f) = tupleElems v := by cases v <;> rfl

theorem tjoinOut_rel {o o' : Out} (hr : relV o.1 o'.1 = true) (hs : shapeEq o.1 o'.1)
    (he : ¬ bm o.1 o'.1 → ∀ p ∈ (tupleElems o.1).zip (tupleElems o'.1), shapeEq p.1 p.2)
    (h1 : (tjoinOut o).2 = []) (h2 : (tjoinOut o').2 = []) :
    relV (tjoinOut o).1 (tjoinOut o').1 = true := by
  rcases tjoinOut_clean h1 with ⟨g1, e1⟩ | ⟨d1, k1, f, xs, t1, e1⟩ <;>
    rcases tjoinOut_clean h2 with ⟨g2, e2⟩ | ⟨d2, k2, f', xs', t2, e2⟩
  · rw [e1, e2]; simp [relV]
  · rw [hs.1, hs.2, d2, k2] at g1; simp at g1
  · rw [← hs.1, ← hs.2, d1, k1] at g2; simp at g2
  · rw [e1] at h1 ⊢
    rw [e2] at h2 ⊢
    by_cases hb : bm o.1 o'.1
    · exact relV_top (tjoinLoop_marked _ hb.1 _ _ _ _ hb.1) (tjoinLoop_marked _ hb.2 _ _ _ _ hb.2)
    · have rc : relC o.1.unmark.1 o'.1.unmark.1 = true := by simpa using relC_of_not_bm hr hb
      have he := he hb
      rw [← tupleElems_setFl o.1 o.1.fl.unmark, ← tupleElems_setFl o'.1 o'.1.fl.unmark, ← unmark_fst, ← unmark_fst,
        t1, t2] at he
      rw [t1, t2] at rc
      exact tjoinLoop_rel _ _ _ _ rc he _ _ _ _ _ _ (Or.inr rfl) h1 h2
end HclModel.Proofs
