import Proofs.DynLevel
/-!
`writeOut` (the specification of dynamic-block expansion) block by block, its fuel monotonicity, and the main
theorem of C18: a consumer sees through the expanded body exactly what it sees through the written-out body
(`resolveX = resolveW`).
-/
namespace HclModel.Dyn.Proofs
open HclModel HclModel.Body HclModel.Dyn HclModel.Body.Proofs

/-- the blocks one element of a `for_each` collection stands for -/
def wElem (ev : Env → Expr → Out) (ρf : Env) (fuel : Nat) (its : Iters) (t : String) (name : String) (m : Fl)
    (lexprs : List Expr) (content : SBody) (kv : Val × Val) : Option WBlock :=
  match (evalLabels ev (iterEnv ((name, kv.1, kv.2) :: its) ++ ρf) lexprs).1,
      writeOut ev ρf fuel ((name, kv.1, kv.2) :: its) m content with
  | some ls, some w => some (WBlock.mk t ls m w)
  | _, _ => none

/-- the written-out blocks one source block stands for (`per` in `writeOut`) -/
def wPer (ev : Env → Expr → Out) (ρf : Env) (fuel : Nat) (its : Iters) (blk : SBlock) : Option (List WBlock) :=
  match blk with
  | .static t ls body => (writeOut ev ρf fuel its Fl.none body).map fun w => [WBlock.mk t ls Fl.none w]
  | .dyn t fe itn labels content =>
    let o := ev (iterEnv its ++ ρf) fe
    if !o.2.isEmpty then none else
    if o.1.unmark.1.isNull || !o.1.unmark.1.isKnown then none else
    match elements o.1.unmark.1 with
    | none => none
    | some kvs => allSome (kvs.map (wElem ev ρf fuel its t (itn.getD t) o.1.unmark.2 (labels.getD []) content))

theorem writeOut_zero (ev : Env → Expr → Out) (ρf : Env) (its : Iters) (m : Fl) (src : SBody) :
    writeOut ev ρf 0 its m src = none := by
  cases src; rfl

theorem writeOut_succ (ev : Env → Expr → Out) (ρf : Env) (fuel : Nat) (its : Iters) (m : Fl)
    (attrs : List (String × Expr)) (blocks : List SBlock) :
    writeOut ev ρf (fuel + 1) its m (.mk attrs blocks) =
      (allSome (blocks.map (wPer ev ρf fuel its))).map fun bss =>
        WBody.mk (attrs.map fun p => (p.1, ⟨p.2, its, m, false⟩)) bss.flatten := by
  rfl

theorem wPer_dyn_eq_some {ev : Env → Expr → Out} {ρf : Env} {fuel : Nat} {its : Iters} {t : String} {fe : Expr}
    {itn : Option String} {labels : Option (List Expr)} {content : SBody} {ws : List WBlock} :
    wPer ev ρf fuel its (.dyn t fe itn labels content) = some ws ↔
      (ev (iterEnv its ++ ρf) fe).2.isEmpty = true ∧
      ∃ kvs, elements (ev (iterEnv its ++ ρf) fe).1.unmark.1 = some kvs ∧
        allSome (kvs.map (wElem ev ρf fuel its t (itn.getD t) (ev (iterEnv its ++ ρf) fe).1.unmark.2
          (labels.getD []) content)) = some ws := by
  simp only [wPer]
  generalize ev (iterEnv its ++ ρf) fe = o
  constructor
  · intro h
    by_cases c1 : (!o.2.isEmpty) = true
    · rw [if_pos c1] at h; cases h
    by_cases c2 : (o.1.unmark.1.isNull || !o.1.unmark.1.isKnown) = true
    · rw [if_neg c1, if_pos c2] at h; cases h
    rw [if_neg c1, if_neg c2] at h
    cases he : elements o.1.unmark.1 with
    | none => rw [he] at h; cases h
    | some kvs => rw [he] at h; exact ⟨by simpa using c1, kvs, rfl, h⟩
  · rintro ⟨hd, kvs, he, h⟩
    obtain ⟨_, h2, h3⟩ := elements_some he
    simpa only [hd, h2, h3, he, Bool.not_true, Bool.or_self, Bool.false_eq_true, if_false] using h

theorem wElem_some {ev : Env → Expr → Out} {ρf : Env} {fuel : Nat} {its : Iters} {t name : String} {m : Fl} {lexprs : List Expr} {content : SBody} {kv : Val × Val}
    {wb : WBlock} (h : wElem ev ρf fuel its t name m lexprs content kv = some wb) :
    ∃ ls w, (evalLabels ev (iterEnv ((name, kv.1, kv.2) :: its) ++ ρf) lexprs).1 = some ls ∧
      writeOut ev ρf fuel ((name, kv.1, kv.2) :: its) m content = some w ∧ wb = WBlock.mk t ls m w := by
  unfold wElem at h
  split at h
  · rename_i ls w h1 h2
    exact ⟨ls, w, h1, h2, by simpa using h.symm⟩
  · simp at h

theorem wElem_mono (ev : Env → Expr → Out) (ρf : Env) (fuel : Nat)
    (ih : ∀ its m src w, writeOut ev ρf fuel its m src = some w → writeOut ev ρf (fuel + 1) its m src = some w)
    (its : Iters) (t name : String) (m : Fl) (lexprs : List Expr) (content : SBody) (kv : Val × Val) (wb : WBlock)
    (h : wElem ev ρf fuel its t name m lexprs content kv = some wb) :
    wElem ev ρf (fuel + 1) its t name m lexprs content kv = some wb := by
  obtain ⟨ls, w, h1, h2, rfl⟩ := wElem_some h
  simp only [wElem, h1, ih _ _ _ _ h2]

theorem wPer_mono (ev : Env → Expr → Out) (ρf : Env) (fuel : Nat)
    (ih : ∀ its m src w, writeOut ev ρf fuel its m src = some w → writeOut ev ρf (fuel + 1) its m src = some w)
    (its : Iters) (blk : SBlock) (ws : List WBlock)
    (h : wPer ev ρf fuel its blk = some ws) : wPer ev ρf (fuel + 1) its blk = some ws := by
  cases blk with
  | static t ls body =>
    simp only [wPer, Option.map_eq_some_iff] at h ⊢
    obtain ⟨w, h1, h2⟩ := h
    exact ⟨w, ih _ _ _ _ h1, h2⟩
  | dyn t fe itn labels content =>
    rw [wPer_dyn_eq_some] at h ⊢
    obtain ⟨hd, kvs, he, h⟩ := h
    exact ⟨hd, kvs, he, allSome_map_mono _ _ _ _ (fun kv _ wb hwb => wElem_mono ev ρf fuel ih _ _ _ _ _ _ _ _ hwb) h⟩

theorem writeOut_fuel_mono (ev : Env → Expr → Out) (ρf : Env) (fuel : Nat) (its : Iters) (m : Fl) (src : SBody) (w : WBody)
    (h : writeOut ev ρf fuel its m src = some w) : writeOut ev ρf (fuel + 1) its m src = some w := by
  induction fuel generalizing its m src w with
  | zero => rw [writeOut_zero] at h; simp at h
  | succ fuel ih =>
    obtain ⟨attrs, blocks⟩ := src
    rw [writeOut_succ] at h ⊢
    simp only [Option.map_eq_some_iff] at h ⊢
    obtain ⟨bss, h1, h2⟩ := h
    exact ⟨bss, allSome_map_mono _ _ _ _ (fun blk _ ws hws => wPer_mono ev ρf fuel ih its blk ws hws) h1, h2⟩

theorem writeOut_fuel_le (ev : Env → Expr → Out) (ρf : Env) (fuel fuel' : Nat) (its : Iters) (m : Fl) (src : SBody) (w : WBody)
    (hle : fuel ≤ fuel') (h : writeOut ev ρf fuel its m src = some w) : writeOut ev ρf fuel' its m src = some w := by
  induction hle with
  | refl => exact h
  | step _ ih => exact writeOut_fuel_mono _ _ _ _ _ _ _ ih

def wNative (b : WBlock) : Body.Block WBlock := ⟨b.type, b.labels, b⟩

theorem bgood_wNative (s : Schema) (wb : WBlock) :
    bgood [] s (wNative wb) =
      (match wanted s wb.type with | some bs => wb.labels.length == bs.labelCount | none => false) := by
  simp only [bgood, wNative, List.contains_nil, Bool.not_false, Bool.true_and]
  cases wanted s wb.type <;> rfl

abbrev RBlock := String × List String × Fl × RTree

/-- what `resolveX` / `resolveW` make of one block of a level, the recursive call left open -/
def fX (F : STree → XBody → RTree) (st : STree) (blk : XBlock) : Option RBlock :=
  (st.child blk.type).map fun cst => (blk.type, blk.labels, blk.body.bodyMarks, F cst blk.body)

def fW (G : STree → WBody → RTree) (st : STree) (blk : Body.Block WBlock) : Option RBlock :=
  (st.child blk.type).map fun cst => (blk.type, blk.labels, blk.body.marks, G cst blk.body.body)

theorem fX_eq_fW (F : STree → XBody → RTree) (G : STree → WBody → RTree) (st : STree) (xb : XBlock) (wb : WBlock)
    (h1 : xb.type = wb.type) (h2 : xb.labels = wb.labels) (h3 : xb.body.marks = wb.marks)
    (h4 : ∀ cst, st.child xb.type = some cst → F cst xb.body = G cst wb.body) :
    fX F st xb = fW G st (wNative wb) := by
  simp only [fX, fW, wNative, XBody.bodyMarks, ← h1, ← h2, ← h3]
  cases hc : st.child xb.type with
  | none => rfl
  | some cst => simp [h4 cst hc]

section level
variable (ev : Env → Expr → Out) (ρf : Env) (F : STree → XBody → RTree) (G : STree → WBody → RTree)
  (st : STree) (fuel : Nat)

/-- what is known about the next level down -/
def Rec : Prop :=
  ∀ (cst : STree) (its : Iters) (m : Fl) (src : SBody) (w : WBody), cst.ok = true → src.ok = true →
    writeOut ev ρf fuel its m src = some w → F cst { src := src, its := its, marks := m } = G cst w

theorem wElems_mem {its : Iters} {t name : String} {m : Fl} {lexprs : List Expr} {content : SBody}
    {kvs : List (Val × Val)} {ws : List WBlock}
    (h : allSome (kvs.map (wElem ev ρf fuel its t name m lexprs content)) = some ws) :
    ∀ wb ∈ ws, wb.type = t ∧ wb.labels.length = lexprs.length := by
  intro wb hwb
  have hm : some wb ∈ kvs.map (wElem ev ρf fuel its t name m lexprs content) := by
    rw [(allSome_eq_some_iff _ _).1 h]
    exact List.mem_map_of_mem hwb
  obtain ⟨kv, _, h1⟩ := List.mem_map.1 hm
  obtain ⟨ls, w, hl, _, rfl⟩ := wElem_some h1
  exact ⟨rfl, evalLabels_length _ _ _ _ hl⟩

/-- One `dynamic` block, element by element: the lazy side generates for each element of the collection a block whose
    body is the content under one more iteration, the written side has that content written out (`wElem`); both
    evaluate the same labels, so by `hrec` on the content each pair resolves alike (`fX_eq_fW`). -/
theorem gen_vs_elems {its : Iters} {t name : String} {m : Fl} {lexprs : List Expr} {content : SBody}
    {kvs : List (Val × Val)} {ws : List WBlock}
    (h : allSome (kvs.map (wElem ev ρf fuel its t name m lexprs content)) = some ws)
    (hrec : ∀ cst, st.child t = some cst → ∀ its' w, writeOut ev ρf fuel its' m content = some w →
      F cst { src := content, its := its', marks := m } = G cst w) :
    (genBlocks ev ρf its name m lexprs t content none kvs).1.filterMap (fX F st) =
      (ws.map wNative).filterMap (fW G st) := by
  induction kvs generalizing ws with
  | nil =>
    simp only [List.map_nil, allSome_nil, Option.some.injEq] at h
    subst h; rfl
  | cons kv rest ih =>
    obtain ⟨k, v⟩ := kv
    rw [List.map_cons, allSome_cons_eq_some] at h
    obtain ⟨x, xs, h1, h2, rfl⟩ := h
    obtain ⟨ls, w, hl, hw, rfl⟩ := wElem_some h1
    rw [genBlocks_cons_fst, hl, List.filterMap_append, ih h2, List.map_cons, List.filterMap_cons,
      List.filterMap_cons, List.filterMap_nil]
    rw [fX_eq_fW F G st _ (WBlock.mk t ls m w) rfl rfl rfl (fun cst hc => hrec cst hc _ _ hw)]
    cases fW G st (wNative (WBlock.mk t ls m w)) <;> rfl

/-- One source block seen from both sides: what the lazy body yields for it at this level (`xSeg`, which consults
    the schema first) resolves to what the blocks written out for it resolve to once the schema has filtered them
    (`bgood`).  A static block is a single block on either side, kept by the same test of its label count against
    the schema's entry for its type; a `dynamic` block is `gen_vs_elems`, all its blocks passing that test or none. -/
theorem seg_eq (hst : st.ok = true) (hrec : Rec ev ρf F G fuel) (its : Iters) (blk : SBlock) (hblk : BlockOk blk)
    (ws : List WBlock) (hws : wPer ev ρf fuel its blk = some ws) :
    (xSeg ev ρf its [] st.schema blk).filterMap (fX F st) =
      ((ws.map wNative).filter (bgood [] st.schema)).filterMap (fW G st) := by
  have hnd := (STree.ok_nodup hst).2
  cases blk with
  | static t ls body =>
    simp only [wPer, Option.map_eq_some_iff] at hws
    obtain ⟨w, hw, rfl⟩ := hws
    have hg := bgood_wNative st.schema (WBlock.mk t ls Fl.none w)
    simp only [WBlock.type, WBlock.labels] at hg
    simp only [xSeg, List.any_nil, Bool.false_eq_true, if_false, List.map_cons, List.map_nil, List.filter_cons,
      List.filter_nil, hg]
    cases hwt : wanted st.schema t with
    | none => simp
    | some bs =>
      -- both sides ask whether `ls.length = bs.labelCount`
      by_cases hl : ls.length = bs.labelCount
      · simp only [hl, if_true, beq_self_eq_true, List.filterMap_cons, List.filterMap_nil]
        rw [fX_eq_fW F G st _ (WBlock.mk t ls Fl.none w) rfl rfl rfl
          (fun cst hc => hrec cst its Fl.none body w (STree.ok_child hst hc) hblk.2 hw)]
      · simp [hl]
  | dyn t fe itn labels content =>
    obtain ⟨hd', kvs, he, hws⟩ := wPer_dyn_eq_some.1 hws
    -- the written blocks all have type `t` and one label per label expression: all pass or none
    have hgood : ∀ b ∈ ws.map wNative, bgood [] st.schema b =
        (match st.schema.blocks.find? (·.type == t) with
          | some bs => (labels.getD []).length == bs.labelCount | none => false) := by
      intro b hb
      obtain ⟨wb, hwb, rfl⟩ := List.mem_map.1 hb
      obtain ⟨h1, h2⟩ := wElems_mem ev ρf fuel hws wb hwb
      rw [bgood_wNative, h1, h2, wanted_eq_find? _ _ hnd]
    rw [filter_const hgood]
    simp only [xSeg, List.any_nil, Bool.false_eq_true, if_false]
    cases st.schema.blocks.find? (fun b => b.type == t) with
    | none => rfl
    | some bs =>
      simp only
      rw [expandDyn_known ev ρf its bs.labelCount t fe itn labels content kvs hd' he hblk.1]
      by_cases hlc : (labels.getD []).length = bs.labelCount
      · rw [if_pos hlc, if_pos (by simpa using hlc)]
        exact gen_vs_elems ev ρf F G st fuel hws
          (fun cst hc its' w hw' => hrec cst its' _ content w (STree.ok_child hst hc) hblk.2 hw')
      · rw [if_neg hlc, if_neg (by simpa using hlc)]
        rfl

theorem level_blocks (hst : st.ok = true) (hrec : Rec ev ρf F G fuel) (its : Iters) (blocks : List SBlock)
    (hb : okAll blocks = true) (bss : List (List WBlock))
    (hall : allSome (blocks.map (wPer ev ρf fuel its)) = some bss) :
    (blocks.flatMap (xSeg ev ρf its [] st.schema)).filterMap (fX F st) =
      ((bss.flatten.map wNative).filter (bgood [] st.schema)).filterMap (fW G st) := by
  induction blocks generalizing bss with
  | nil =>
    simp only [List.map_nil, allSome_nil, Option.some.injEq] at hall
    subst hall; rfl
  | cons blk rest ih =>
    rw [List.map_cons, allSome_cons_eq_some] at hall
    obtain ⟨ws, wss, h1, h2, rfl⟩ := hall
    have hb' := (okAll_iff _).1 hb
    have hrest : okAll rest = true := (okAll_iff _).2 fun b hb => hb' b (by simp [hb])
    rw [List.flatMap_cons, List.filterMap_append, List.flatten_cons, List.map_append, List.filter_append,
      List.filterMap_append, ih hrest wss h2,
      seg_eq ev ρf F G st fuel hst hrec its blk (hb' blk (by simp)) ws h1]

end level

theorem resolveX_succ (ev : Env → Expr → Out) (ρf ρ : Env) (n : Nat) (st : STree) (b : XBody) :
    resolveX ev ρf ρ (n + 1) st b =
      .mk ((b.content ev ρf st.schema).1.attrs.map fun p => (p.1, p.2.value ev ρ))
        ((b.content ev ρf st.schema).1.blocks.filterMap (fX (resolveX ev ρf ρ n) st)) := rfl

theorem resolveW_succ (ev : Env → Expr → Out) (ρ : Env) (n : Nat) (st : STree) (w : WBody) :
    resolveW ev ρ (n + 1) st w =
      .mk ((w.native.content st.schema).1.attrs.map fun p => (p.1, p.2.value ev ρ))
        ((w.native.content st.schema).1.blocks.filterMap (fW (resolveW ev ρ n) st)) := rfl

/-- one level hands out the same attributes: on both sides, the schema's attributes found in the source -/
theorem level_attrs (ev : Env → Expr → Out) (ρf : Env) (s : Schema) (hnd : (s.attrs.map (·.name)).Nodup)
    (its : Iters) (m : Fl) (attrs : List (String × Expr)) (blocks : List SBlock) (wbs : List WBlock) :
    (({ src := .mk attrs blocks, its := its, marks := m } : XBody).content ev ρf s).1.attrs =
      ((WBody.mk (attrs.map fun p => (p.1, ⟨p.2, its, m, false⟩)) wbs).native.content s).1.attrs := by
  rw [XBody.content, contentCore_attrs ev ρf _ s false (by simpa using hnd), content_fst,
    partial_attrs _ _ hnd (fun _ _ => List.not_mem_nil)]
  simp only [fixA_none, List.map_id, WBody.native, WBody.attrs, SBody.attrs]
  apply filterMap_congr'
  intro as _
  rw [findAttr_map (fun e => (⟨e, its, m, false⟩ : XAttr))]
  cases findAttr as.name attrs <;> rfl

theorem expand_eq_written_out_gen (ev : Env → Expr → Out) (ρf ρ : Env) (n : Nat) :
    ∀ (st : STree) (its : Iters) (m : Fl) (src : SBody) (w : WBody) (fuel : Nat), st.ok = true → src.ok = true →
      writeOut ev ρf fuel its m src = some w →
      resolveX ev ρf ρ n st { src := src, its := its, marks := m } = resolveW ev ρ n st w := by
  induction n with
  | zero => intros; rfl
  | succ n ih =>
    intro st its m src w fuel hst hsrc hw
    cases fuel with
    | zero => rw [writeOut_zero] at hw; cases hw
    | succ fuel =>
      obtain ⟨attrs, blocks⟩ := src
      rw [writeOut_succ] at hw
      obtain ⟨bss, hall, rfl⟩ := Option.map_eq_some_iff.1 hw
      have hb : okAll blocks = true := SBody.ok_blocks hsrc
      rw [resolveX_succ, resolveW_succ, level_attrs ev ρf st.schema (STree.ok_nodup hst).1]
      congr 1
      rw [XBody.content, contentCore_blocks ev ρf { src := .mk attrs blocks, its := its, marks := m } st.schema false
        (fun _ h => nomatch h) hb, content_fst, partial_blocks]
      simp only [fixB_none, List.map_id]
      exact level_blocks ev ρf _ _ st fuel hst
        (fun cst its m src w h1 h2 h3 => ih cst its m src w fuel h1 h2 h3) its blocks hb bss hall

theorem expand_eq_written_out (ev : Env → Expr → Out) (ρf ρ : Env) (st : STree) (src : SBody) (w : WBody)
    (fuel n : Nat) (hst : st.ok = true) (hsrc : src.ok = true)
    (hw : writeOut ev ρf fuel [] Fl.none src = some w) :
    resolveX ev ρf ρ n st { src := src } = resolveW ev ρ n st w :=
  expand_eq_written_out_gen ev ρf ρ n st [] Fl.none src w fuel hst hsrc hw

end HclModel.Dyn.Proofs
