import HclModel.Gohcl.Codec
/-!
C16: the struct encoder and decoder, one field at a time.  `encodeFields`, `decodeFields`, `fieldsOk`,
`fieldsWf`, `labelVals` are restated as "head field, then the rest"; everything else about the struct round
trip (`Proofs/GohclStruct.lean`) is proved from these equations, not from the definitions.
-/
namespace HclModel.Gohcl.Proofs
open HclModel HclModel.Body

/-- a block as `Content` sees it -/
def toB (blk : GBlock) : Block GBlock := ⟨blk.type, blk.labels, blk⟩

theorem native_mk (as : List (String × Val)) (bs : List GBlock) :
    (GBody.mk as bs).native = { attrs := as, blocks := bs.map toB } := rfl

/-- what an attribute field contributes to the body -/
def encAttr (name : String) (ty : GTy) (v : GVal) : Option (List (String × Val)) :=
  match ty, v with
  | .ptr _, .ptr none => some []
  | .ptr (.ptr _), .ptr (some (.ptr none)) => some []
  | .ptr t, .ptr (some x) => (toCty t x).map fun c => [(name, c)]
  | _, _ => (toCty ty v).map fun c => [(name, c)]

/-- what a block field contributes to the body -/
def encHere (type : String) (shape : Shape) (sty : STy) (v : FVal) : Option (List GBlock) :=
  match shape, v with
  | .one, .one s => (encodeBlock type sty s).map ([·])
  | .ptr, .ptr none => some []
  | .ptr, .ptr (some s) => (encodeBlock type sty s).map ([·])
  | .slice, .slice none => some []
  | .slice, .slice (some xs) => encodeBlocks type sty xs
  | .slicePtr, .slicePtr none => some []
  | .slicePtr, .slicePtr (some xs) => encodeBlocks type sty xs
  | _, _ => none

def encField : Field → FVal → Option (List (String × Val) × List GBlock)
  | .attr name _ ty, .attr v => (encAttr name ty v).map fun a => (a, [])
  | .label _, .label _ => some ([], [])
  | .block type shape sty, v => (encHere type shape sty v).map fun b => ([], b)
  | _, _ => none

/- The equation compiler cannot generate the equational theorems of `encodeFields` ("failed to generate
   equational theorem"): its equations are stated here and hold by definitional unfolding. -/

theorem encodeFields_attr (name : String) (o : Bool) (ty : GTy) (fs : List Field) (v : GVal) (vs : List FVal) :
    encodeFields (.attr name o ty :: fs) (.attr v :: vs) =
      match encodeFields fs vs with
      | none => none
      | some (as, bs) =>
        match ty, v with
        | .ptr _, .ptr none => some (as, bs)
        | .ptr (.ptr _), .ptr (some (.ptr none)) => some (as, bs)
        | .ptr t, .ptr (some x) => (toCty t x).map fun c => ((name, c) :: as, bs)
        | _, _ => (toCty ty v).map fun c => ((name, c) :: as, bs) := rfl

theorem encodeFields_label (n s : String) (fs : List Field) (vs : List FVal) :
    encodeFields (.label n :: fs) (.label s :: vs) = encodeFields fs vs := rfl

theorem encodeFields_block (type : String) (shape : Shape) (sty : STy) (fs : List Field) (v : FVal)
    (vs : List FVal) :
    encodeFields (.block type shape sty :: fs) (v :: vs) =
      match encodeFields fs vs with
      | none => none
      | some (as, bs) => (encHere type shape sty v).map fun h => (as, h ++ bs) := by
  rcases v with _ | _ | _ | (_ | _) | (_ | _) | (_ | _) <;> cases shape <;> rfl

theorem encodeFields_cons (f : Field) (fs : List Field) (v : FVal) (vs : List FVal) :
    encodeFields (f :: fs) (v :: vs) =
      match encodeFields fs vs, encField f v with
      | some (as, bs), some (a, b) => some (a ++ as, b ++ bs)
      | _, _ => none := by
  cases f with
  | attr name o ty =>
    cases v with
    | attr g =>
      rw [encodeFields_attr]
      cases encodeFields fs vs with
      | none => rfl
      | some p =>
        obtain ⟨as, bs⟩ := p
        simp only [encField, encAttr]
        split
        · rfl
        · rfl
        · cases toCty _ _ <;> rfl
        · cases toCty _ _ <;> rfl
    | label _ | one _ | ptr _ | slice _ | slicePtr _ =>
      rcases encodeFields fs vs with _ | ⟨as, bs⟩ <;> rfl
  | label n =>
    cases v with
    | label s => rw [encodeFields_label]; cases encodeFields fs vs <;> rfl
    | attr _ | one _ | ptr _ | slice _ | slicePtr _ =>
      rcases encodeFields fs vs with _ | ⟨as, bs⟩ <;> rfl
  | block type shape sty =>
    rw [encodeFields_block]
    cases encodeFields fs vs with
    | none => rfl
    | some p =>
      obtain ⟨as, bs⟩ := p
      simp only [encField]
      cases encHere type shape sty v <;> rfl

theorem encodeFields_nil : encodeFields [] [] = some ([], []) := rfl

/-- the block field of one shape, from the blocks of its type -/
def decShape (fuel : Nat) (shape : Shape) (sty : STy) (blocks : List (Block GBlock)) : Option FVal :=
  match shape with
  | .one =>
    (match blocks with
     | [b] => (decodeBlock fuel sty b.body).map FVal.one
     | _ => none)
  | .ptr =>
    (match blocks with
     | [] => some (.ptr none)
     | [b] => (decodeBlock fuel sty b.body).map fun s => FVal.ptr (some s)
     | _ => none)
  | .slice =>
    (match blocks with
     | [] => some (.slice none)
     | _ => (decodeBlocks fuel sty (blocks.map (·.body))).map fun xs => FVal.slice (some xs))
  | .slicePtr =>
    (match blocks with
     | [] => some (.slicePtr none)
     | _ => (decodeBlocks fuel sty (blocks.map (·.body))).map fun xs => FVal.slicePtr (some xs))

def decField (fuel : Nat) (f : Field) (c : Content Val GBlock) (labels : List String) : Option FVal :=
  match f with
  | .attr name _ ty =>
    (match findAttr name c.attrs with
     | none => some (.attr (zeroOf ty))
     | some v => (decodeExpr ty (reparse v)).map FVal.attr)
  | .label _ => some (.label (labels.headD ""))
  | .block type shape sty => decShape fuel shape sty (c.blocks.filter (·.type == type))

/-- the labels left for the remaining fields -/
def restLabels (f : Field) (labels : List String) : List String :=
  match f with
  | .label _ => labels.tail
  | _ => labels

theorem decodeFields_cons (fuel : Nat) (f : Field) (fs : List Field) (c : Content Val GBlock)
    (labels : List String) :
    decodeFields fuel (f :: fs) c labels =
      match decField fuel f c labels, decodeFields fuel fs c (restLabels f labels) with
      | some h, some rest => some (h :: rest)
      | _, _ => none := by
  cases f with
  | attr name o ty => rw [decodeFields.eq_def]; rfl
  | label n =>
    rw [decodeFields.eq_def]; simp only [decField, restLabels]
    cases decodeFields fuel fs c labels.tail <;> rfl
  | block type shape sty => rw [decodeFields.eq_def]; cases shape <;> rfl

theorem decodeFields_nil (fuel : Nat) (c : Content Val GBlock) (labels : List String) :
    decodeFields fuel [] c labels = some [] := by rw [decodeFields.eq_def]

def fieldOk : Field → FVal → Bool
  | .attr _ _ t, .attr v => hasTy t v
  | .label _, .label _ => true
  | .block _ .one sty, .one s => s.ok sty
  | .block _ .ptr _, .ptr none => true
  | .block _ .ptr sty, .ptr (some s) => s.ok sty
  | .block _ .slice _, .slice none => true
  | .block _ .slice sty, .slice (some xs) => !xs.isEmpty && allOk sty xs
  | .block _ .slicePtr _, .slicePtr none => true
  | .block _ .slicePtr sty, .slicePtr (some xs) => !xs.isEmpty && allOk sty xs
  | _, _ => false

theorem fieldsOk_cons (f : Field) (fs : List Field) (v : FVal) (vs : List FVal) :
    fieldsOk (f :: fs) (v :: vs) = (fieldOk f v && fieldsOk fs vs) := by
  rcases f with _ | _ | ⟨_, _ | _ | _ | _, _⟩ <;> rcases v with _ | _ | _ | (_ | _) | (_ | _) | (_ | _) <;> rfl

theorem fieldsOk_nil_left (vs : List FVal) : fieldsOk [] vs = true → vs = [] := by
  cases vs with
  | nil => exact fun _ => rfl
  | cons => exact nofun

theorem fieldsOk_nil_right (f : Field) (fs : List Field) : fieldsOk (f :: fs) [] = false := by
  rcases f with _ | _ | ⟨_, _ | _ | _ | _, _⟩ <;> rfl

def fieldWf : Field → Bool
  | .attr _ _ t => noInnerPtr t
  | .label _ => true
  | .block _ _ sty => sty.wf

theorem fieldsWf_cons (f : Field) (fs : List Field) : fieldsWf (f :: fs) = (fieldWf f && fieldsWf fs) := by
  cases f <;> rfl

def labelOf : Field → FVal → List String
  | .label _, .label s => [s]
  | _, _ => []

theorem labelVals_cons (f : Field) (fs : List Field) (v : FVal) (vs : List FVal) :
    labelVals (f :: fs) (v :: vs) = labelOf f v ++ labelVals fs vs := by
  cases f <;> cases v <;> rfl

theorem labelVals_nil : labelVals [] [] = [] := rfl

theorem labelNames_cons (f : Field) (fs : List Field) :
    labelNames (f :: fs) = (match f with | .label n => [n] | _ => []) ++ labelNames fs := by
  cases f <;> rfl

theorem labelVals_length : ∀ (fs : List Field) (vs : List FVal), fieldsOk fs vs = true →
    (labelVals fs vs).length = (labelNames fs).length
  | [], vs, h => by rw [fieldsOk_nil_left vs h, labelVals_nil]; rfl
  | f :: fs, [], h => by rw [fieldsOk_nil_right] at h; exact absurd h (by decide)
  | f :: fs, v :: vs, h => by
    rw [fieldsOk_cons, Bool.and_eq_true] at h
    rw [labelVals_cons, labelNames_cons, List.length_append, List.length_append, labelVals_length fs vs h.2]
    congr 1
    -- only a label field has labels, and its value is then a label
    cases f with
    | label n =>
      cases v with
      | label s => rfl
      | _ => exact nomatch h.1
    | _ => cases v <;> rfl

def fieldDepth : Field → Nat
  | .block _ _ sty => sty.depth
  | _ => 0

theorem fieldsDepth_cons (f : Field) (fs : List Field) :
    fieldsDepth (f :: fs) = max (fieldDepth f) (fieldsDepth fs) := by
  cases f with
  | block => rfl
  | _ => exact (Nat.zero_max _).symm

theorem depth_mk (fields : List Field) : (STy.mk fields).depth = 1 + fieldsDepth fields := rfl

theorem allOk_cons (sty : STy) (s : SVal) (rest : List SVal) :
    allOk sty (s :: rest) = (s.ok sty && allOk sty rest) := rfl

theorem ok_mk (fields : List Field) (vals : List FVal) : SVal.ok (.mk fields) (.mk vals) = fieldsOk fields vals := rfl

end HclModel.Gohcl.Proofs
