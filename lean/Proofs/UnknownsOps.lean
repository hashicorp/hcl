import Proofs.UnknownsConc
import Proofs.ValueConvert
/-!
`convert`: what it preserves (known-in-known-out, result types, well-typedness) and its monotonicity for `conc`.
-/
namespace HclModel.Proofs.Unk
open Val

theorem whollyKnown_leaf {v : Val} (hf : isLeaf v = true) : whollyKnown v = isKnown v := by
  cases v <;> simp_all [isLeaf, whollyKnown, isKnown]
theorem wfVal_leaf {v : Val} (hf : isLeaf v = true) : wfVal v = true := by
  cases v <;> simp_all [isLeaf, wfVal]

theorem wfList_of_wfElems {t : Ty} {xs : List Val} (h : wfElems t xs = true) : wfList xs = true :=
  wfList_of_mem fun x hx => (wfElems_mem h x hx).2
theorem wfFields_of_wfElemsF {t : Ty} {xs : List (String × Val)} (h : wfElemsF t xs = true) : wfFields xs = true :=
  wfFields_of_mem fun x hx => (wfElemsF_mem h x hx).2

/-- what `convert` preserves / establishes, for one value -/
def ConvP (v : Val) (t : Ty) (v' : Val) : Prop :=
  v'.isKnown = v.isKnown ∧ v'.isNull = v.isNull ∧ (whollyKnown v = true → whollyKnown v' = true) ∧
    (t.noDyn = true → typeOf v' = t ∧ (wfVal v = true → wfVal v' = true))

theorem ConvP_leaf {v : Val} {t : Ty} {v' : Val} (hf : isLeaf v = true) (h : convert v t = .ok v') :
    ConvP v t v' := by
  obtain ⟨h1, -, h2, h3, h4⟩ := convert_leaf hf h
  refine ⟨h2, h3, ?_, ?_⟩
  · rw [whollyKnown_leaf hf, whollyKnown_leaf h1, h2]; exact id
  · intro hn
    refine ⟨?_, fun _ => wfVal_leaf h1⟩
    rcases h4 with ⟨rfl, _⟩ | h4
    · simp [Ty.noDyn] at hn
    · exact h4

/-- `ConvP` for every conversion of one value: the statement the induction over values needs -/
def ConvPs (v : Val) : Prop := ∀ t v', convert v t = .ok v' → ConvP v t v'

theorem convertList_props_of : ∀ {xs : List Val} {t : Ty} {ys : List Val}, (∀ x ∈ xs, ConvPs x) →
    convertList xs t = .ok ys →
    (whollyKnownList xs = true → whollyKnownList ys = true) ∧
      (t.noDyn = true → wfList xs = true → wfElems t ys = true)
  | [], t, ys, _, h => by
    rw [convertList_nil] at h; cases h; exact ⟨id, fun _ _ => rfl⟩
  | x :: xs, t, ys, ih, h => by
    obtain ⟨_, y, ys, hy, hys, rfl⟩ := convertList_cons_ok.mp h
    obtain ⟨_, _, p3, p4⟩ := ih x (by simp) t y hy
    obtain ⟨q1, q2⟩ := convertList_props_of (fun z hz => ih z (by simp [hz])) hys
    constructor
    · simp only [whollyKnownList, Bool.and_eq_true]
      exact fun hk => ⟨p3 hk.1, q1 hk.2⟩
    · intro hn
      simp only [wfList, wfElems, Bool.and_eq_true, beq_iff_eq]
      exact fun hw => ⟨⟨(p4 hn).1, (p4 hn).2 hw.1⟩, q2 hn hw.2⟩

theorem convertFields_props_of : ∀ {xs : List (String × Val)} {t : Ty} {ys : List (String × Val)},
    (∀ p ∈ xs, ConvPs p.2) → convertFields xs t = .ok ys →
    (whollyKnownFields xs = true → whollyKnownFields ys = true) ∧
      (t.noDyn = true → wfFields xs = true → wfElemsF t ys = true)
  | [], t, ys, _, h => by
    rw [convertFields_nil] at h; cases h; exact ⟨id, fun _ _ => rfl⟩
  | (k, x) :: xs, t, ys, ih, h => by
    obtain ⟨_, y, ys, hy, hys, rfl⟩ := convertFields_cons_ok.mp h
    obtain ⟨_, _, p3, p4⟩ := ih (k, x) (by simp) t y hy
    obtain ⟨q1, q2⟩ := convertFields_props_of (fun z hz => ih z (by simp [hz])) hys
    constructor
    · simp only [whollyKnownFields, Bool.and_eq_true]
      exact fun hk => ⟨p3 hk.1, q1 hk.2⟩
    · intro hn
      simp only [wfFields, wfElemsF, Bool.and_eq_true, beq_iff_eq]
      exact fun hw => ⟨⟨(p4 hn).1, (p4 hn).2 hw.1⟩, q2 hn hw.2⟩

theorem convertPair_props_of : ∀ {xs : List Val} {ts : List Ty} {ys : List Val}, (∀ x ∈ xs, ConvPs x) →
    xs.length = ts.length → convertPair xs ts = .ok ys →
    (whollyKnownList xs = true → whollyKnownList ys = true) ∧
      (Ty.noDynList ts = true → typeOfList ys = ts ∧ (wfList xs = true → wfList ys = true))
  | [], [], ys, _, _, h => by
    rw [convertPair_nil_left] at h; cases h; exact ⟨id, fun _ => ⟨rfl, id⟩⟩
  | [], _ :: _, ys, _, hl, h => by simp at hl
  | _ :: _, [], ys, _, hl, h => by simp at hl
  | x :: xs, t :: ts, ys, ih, hl, h => by
    obtain ⟨y, ys, hy, hys, rfl⟩ := convertPair_cons_ok.mp h
    obtain ⟨_, _, p3, p4⟩ := ih x (by simp) t y hy
    obtain ⟨q1, q2⟩ := convertPair_props_of (fun z hz => ih z (by simp [hz])) (by simpa using hl) hys
    constructor
    · simp only [whollyKnownList, Bool.and_eq_true]
      exact fun hk => ⟨p3 hk.1, q1 hk.2⟩
    · simp only [Ty.noDynList, Bool.and_eq_true, typeOfList, wfList]
      intro hn
      refine ⟨by rw [(p4 hn.1).1, (q2 hn.2).1], fun hw => ⟨(p4 hn.1).2 hw.1, (q2 hn.2).2 hw.2⟩⟩

theorem convertFieldsTo_props_of : ∀ {xs : List (String × Val)} {ts : List (String × Ty)}
    {ys : List (String × Val)}, (∀ p ∈ xs, ConvPs p.2) →
    sameKeys xs ts = true → convertFieldsTo xs ts = .ok ys →
    (whollyKnownFields xs = true → whollyKnownFields ys = true) ∧
      (Ty.noDynFields ts = true → typeOfFields ys = ts ∧ (wfFields xs = true → wfFields ys = true))
  | [], [], ys, _, _, h => by
    rw [convertFieldsTo_nil_left] at h; cases h; exact ⟨id, fun _ => ⟨rfl, id⟩⟩
  | [], _ :: _, ys, _, hl, h => by simp [sameKeys] at hl
  | (_, _) :: _, [], ys, _, hl, h => by simp [sameKeys] at hl
  | (k, x) :: xs, (l, t) :: ts, ys, ih, hl, h => by
    obtain ⟨y, ys, hy, hys, rfl⟩ := convertFieldsTo_cons_ok.mp h
    simp only [sameKeys, Bool.and_eq_true, beq_iff_eq] at hl
    obtain ⟨_, _, p3, p4⟩ := ih (k, x) (by simp) t y hy
    obtain ⟨q1, q2⟩ := convertFieldsTo_props_of (fun z hz => ih z (by simp [hz])) hl.2 hys
    constructor
    · simp only [whollyKnownFields, Bool.and_eq_true]
      exact fun hk => ⟨p3 hk.1, q1 hk.2⟩
    · simp only [Ty.noDynFields, Bool.and_eq_true, typeOfFields, wfFields]
      intro hn
      refine ⟨by rw [(p4 hn.1).1, (q2 hn.2).1, hl.1], fun hw => ⟨(p4 hn.1).2 hw.1, (q2 hn.2).2 hw.2⟩⟩

theorem convert_convP : ∀ (v : Val) (t : Ty) (v' : Val), convert v t = .ok v' → ConvP v t v' := by
  refine val_induction ?_ ?_ ?_ ?_ ?_
  · intro v hl t v' h
    exact ConvP_leaf hl h
  · intro f u xs ih t v' h
    rcases convert_list_inv h with ⟨ht, rfl⟩ | ⟨b, ys, rfl, hys, rfl⟩
    · refine ⟨rfl, rfl, id, fun hn => ⟨?_, id⟩⟩
      rcases ht with rfl | rfl
      · simp [Ty.noDyn] at hn
      · rfl
    · obtain ⟨p1, p2⟩ := convertList_props_of ih hys
      refine ⟨rfl, rfl, ?_, fun hn => ⟨rfl, ?_⟩⟩
      · simpa [whollyKnown] using p1
      · simp only [wfVal, Ty.noDyn] at hn ⊢
        exact fun hw => p2 hn (wfList_of_wfElems hw)
  · intro f u xs ih t v' h
    rcases convert_map_inv h with ⟨ht, rfl⟩ | ⟨b, ys, rfl, hys, rfl⟩
    · refine ⟨rfl, rfl, id, fun hn => ⟨?_, id⟩⟩
      rcases ht with rfl | rfl
      · simp [Ty.noDyn] at hn
      · rfl
    · obtain ⟨p1, p2⟩ := convertFields_props_of ih hys
      refine ⟨rfl, rfl, ?_, fun hn => ⟨rfl, ?_⟩⟩
      · simpa [whollyKnown] using p1
      · simp only [wfVal, Ty.noDyn] at hn ⊢
        exact fun hw => p2 hn (wfFields_of_wfElemsF hw)
  · intro f xs ih t v' h
    rcases convert_tuple_inv h with ⟨rfl, rfl⟩ | ⟨b, ys, rfl, hys, rfl⟩ | ⟨bs, ys, rfl, hl, hys, rfl⟩
    · exact ⟨rfl, rfl, id, fun hn => by simp [Ty.noDyn] at hn⟩
    · obtain ⟨p1, p2⟩ := convertList_props_of ih hys
      refine ⟨rfl, rfl, ?_, fun hn => ⟨rfl, ?_⟩⟩
      · simpa [whollyKnown] using p1
      · simp only [wfVal, Ty.noDyn] at hn ⊢
        exact fun hw => p2 hn hw
    · obtain ⟨p1, p2⟩ := convertPair_props_of ih hl hys
      refine ⟨rfl, rfl, ?_, fun hn => ?_⟩
      · simpa [whollyKnown] using p1
      · simp only [wfVal, Ty.noDyn, typeOf] at hn ⊢
        obtain ⟨q1, q2⟩ := p2 hn
        exact ⟨by rw [q1], q2⟩
  · intro f xs ih t v' h
    rcases convert_object_inv h with ⟨rfl, rfl⟩ | ⟨b, ys, rfl, hys, rfl⟩ | ⟨bs, ys, rfl, hl, hys, rfl⟩
    · exact ⟨rfl, rfl, id, fun hn => by simp [Ty.noDyn] at hn⟩
    · obtain ⟨p1, p2⟩ := convertFields_props_of ih hys
      refine ⟨rfl, rfl, ?_, fun hn => ⟨rfl, ?_⟩⟩
      · simpa [whollyKnown] using p1
      · simp only [wfVal, Ty.noDyn] at hn ⊢
        exact fun hw => p2 hn hw
    · obtain ⟨p1, p2⟩ := convertFieldsTo_props_of ih hl hys
      refine ⟨rfl, rfl, ?_, fun hn => ?_⟩
      · simpa [whollyKnown] using p1
      · simp only [wfVal, Ty.noDyn, typeOf] at hn ⊢
        obtain ⟨q1, q2⟩ := p2 hn
        exact ⟨by rw [q1], q2⟩

theorem convertList_props (xs : List Val) (t : Ty) (ys : List Val) : convertList xs t = .ok ys →
    (whollyKnownList xs = true → whollyKnownList ys = true) ∧
      (t.noDyn = true → wfList xs = true → wfElems t ys = true) :=
  convertList_props_of fun x _ => convert_convP x
theorem convertFields_props : ∀ (xs : List (String × Val)) (t : Ty) (ys : List (String × Val)),
    convertFields xs t = .ok ys →
    (whollyKnownFields xs = true → whollyKnownFields ys = true) ∧
      (t.noDyn = true → wfFields xs = true → wfElemsF t ys = true) :=
  fun _ _ _ => convertFields_props_of fun p _ => convert_convP p.2
theorem convertPair_props : ∀ (xs : List Val) (ts : List Ty) (ys : List Val), xs.length = ts.length →
    convertPair xs ts = .ok ys →
    (whollyKnownList xs = true → whollyKnownList ys = true) ∧
      (Ty.noDynList ts = true → typeOfList ys = ts ∧ (wfList xs = true → wfList ys = true)) :=
  fun _ _ _ => convertPair_props_of fun x _ => convert_convP x
theorem convertFieldsTo_props : ∀ (xs : List (String × Val)) (ts : List (String × Ty)) (ys : List (String × Val)),
    sameKeys xs ts = true → convertFieldsTo xs ts = .ok ys →
    (whollyKnownFields xs = true → whollyKnownFields ys = true) ∧
      (Ty.noDynFields ts = true → typeOfFields ys = ts ∧ (wfFields xs = true → wfFields ys = true)) :=
  fun _ _ _ => convertFieldsTo_props_of fun p _ => convert_convP p.2

theorem conc_leaf_eq {a v : Val} (hf : isLeaf a = true) (hk : a.isKnown = true) (h : conc v a = true) :
    v = a.setFl v.fl := by
  cases a <;> simp [isLeaf, isKnown] at hf hk <;> cases v <;> simp_all [conc, setFl, fl]

/-- `convert` is monotone for `conc` at targets without `any`: the statement about one abstract value, as the
    induction over values needs it -/
def ConvConc (a : Val) : Prop :=
  ∀ v t v' a', conc v a = true → t.noDyn = true → convert v t = .ok v' → convert a t = .ok a' →
    conc v' a' = true

theorem convertFields_conc_of {t : Ty} : ∀ {ys xs xs' ys' : List (String × Val)}, (∀ p ∈ ys, ConvConc p.2) →
    concF xs ys = true → t.noDyn = true → convertFields xs t = .ok xs' → convertFields ys t = .ok ys' →
    concF xs' ys' = true
  | [], [], _, _, _, _, _, hx, hy => by
    rw [convertFields_nil] at hx hy; cases hx; cases hy; rfl
  | [], (_, _) :: _, _, _, _, h, _, _, _ => by simp [concF] at h
  | (_, _) :: _, [], _, _, _, h, _, _, _ => by simp [concF] at h
  | (l, y) :: ys, (k, x) :: xs, _, _, ih, h, hn, hx, hy => by
    simp only [concF, Bool.and_eq_true] at h
    obtain ⟨_, x', xs', hx1, hx2, rfl⟩ := convertFields_cons_ok.mp hx
    obtain ⟨_, y', ys', hy1, hy2, rfl⟩ := convertFields_cons_ok.mp hy
    simp only [concF, Bool.and_eq_true]
    exact ⟨⟨h.1.1, ih (l, y) (by simp) x t x' y' h.1.2 hn hx1 hy1⟩,
      convertFields_conc_of (fun z hz => ih z (by simp [hz])) h.2 hn hx2 hy2⟩

theorem convertPair_conc_of : ∀ {ys xs : List Val} {ts : List Ty} {xs' ys' : List Val}, (∀ y ∈ ys, ConvConc y) →
    concL xs ys = true → Ty.noDynList ts = true → convertPair xs ts = .ok xs' → convertPair ys ts = .ok ys' →
    concL xs' ys' = true
  | [], [], _, _, _, _, _, _, hx, hy => by
    rw [convertPair_nil_left] at hx hy; cases hx; cases hy; rfl
  | [], _ :: _, _, _, _, _, h, _, _, _ => by simp [concL] at h
  | _ :: _, [], _, _, _, _, h, _, _, _ => by simp [concL] at h
  | _ :: _, _ :: _, [], _, _, _, _, _, hx, hy => by
    rw [convertPair_nil_right] at hx hy; cases hx; cases hy; rfl
  | y :: ys, x :: xs, t :: ts, _, _, ih, h, hn, hx, hy => by
    simp only [concL, Bool.and_eq_true] at h
    simp only [Ty.noDynList, Bool.and_eq_true] at hn
    obtain ⟨x', xs', hx1, hx2, rfl⟩ := convertPair_cons_ok.mp hx
    obtain ⟨y', ys', hy1, hy2, rfl⟩ := convertPair_cons_ok.mp hy
    simp only [concL, Bool.and_eq_true]
    exact ⟨ih y (by simp) x t x' y' h.1 hn.1 hx1 hy1,
      convertPair_conc_of (fun z hz => ih z (by simp [hz])) h.2 hn.2 hx2 hy2⟩

theorem convertFieldsTo_conc_of : ∀ {ys xs : List (String × Val)} {ts : List (String × Ty)}
    {xs' ys' : List (String × Val)}, (∀ p ∈ ys, ConvConc p.2) → concF xs ys = true →
    Ty.noDynFields ts = true → convertFieldsTo xs ts = .ok xs' → convertFieldsTo ys ts = .ok ys' →
    concF xs' ys' = true
  | [], [], _, _, _, _, _, _, hx, hy => by
    rw [convertFieldsTo_nil_left] at hx hy; cases hx; cases hy; rfl
  | [], (_, _) :: _, _, _, _, _, h, _, _, _ => by simp [concF] at h
  | (_, _) :: _, [], _, _, _, _, h, _, _, _ => by simp [concF] at h
  | _ :: _, _ :: _, [], _, _, _, _, _, hx, hy => by
    rw [convertFieldsTo_nil_right] at hx hy; cases hx; cases hy; rfl
  | (l, y) :: ys, (k, x) :: xs, (m, t) :: ts, _, _, ih, h, hn, hx, hy => by
    simp only [concF, Bool.and_eq_true] at h
    simp only [Ty.noDynFields, Bool.and_eq_true] at hn
    obtain ⟨x', xs', hx1, hx2, rfl⟩ := convertFieldsTo_cons_ok.mp hx
    obtain ⟨y', ys', hy1, hy2, rfl⟩ := convertFieldsTo_cons_ok.mp hy
    simp only [concF, Bool.and_eq_true]
    exact ⟨⟨h.1.1, ih (l, y) (by simp) x t x' y' h.1.2 hn.1 hx1 hy1⟩,
      convertFieldsTo_conc_of (fun z hz => ih z (by simp [hz])) h.2 hn.2 hx2 hy2⟩

theorem noDynList_replicate {t : Ty} (h : t.noDyn = true) : ∀ n, Ty.noDynList (List.replicate n t) = true
  | 0 => rfl
  | n + 1 => by simp [List.replicate, Ty.noDynList, h, noDynList_replicate h n]

theorem convertList_conc_of {t : Ty} {ys xs xs' ys' : List Val} (ih : ∀ y ∈ ys, ConvConc y)
    (h : concL xs ys = true) (hn : t.noDyn = true) (hx : convertList xs t = .ok xs')
    (hy : convertList ys t = .ok ys') : concL xs' ys' = true :=
  convertPair_conc_of ih h (noDynList_replicate hn _) (convertPair_of_convertList hx)
    (concL_length h ▸ convertPair_of_convertList hy)

/-- An abstract unknown covers whatever has its type.  A known abstract leaf is matched by the same leaf up to
    flags, which `convert` passes through.  For collections both conversions take the same branch, which the
    target type decides, and the children are converted one by one. -/
theorem convert_conc : ∀ (a v : Val) (t : Ty) (v' a' : Val), conc v a = true → t.noDyn = true →
    convert v t = .ok v' → convert a t = .ok a' → conc v' a' = true := by
  refine val_induction ?_ ?_ ?_ ?_ ?_
  · intro a hl v t v' a' h hn hv ha
    cases hk : a.isKnown
    · cases a <;> simp [isKnown] at hk
      rcases convert_unk_inv ha with ⟨rfl, _⟩ | rfl
      · simp [Ty.noDyn] at hn
      · rw [conc_unk_iff]; exact Or.inr ((convert_convP v t v' hv).2.2.2 hn).1
    · rw [conc_leaf_eq hl hk h, convert_setFl, ha] at hv
      cases hv
      rw [conc_setFl_left]; exact conc_refl a'
  · intro g u ys ih v t v' a' h hn hv ha
    obtain ⟨f, xs, rfl, hl⟩ := conc_list_inv h
    rcases convert_list_both hv ha with ⟨rfl, rfl⟩ | ⟨b, xs', ys', rfl, hxs, hys, rfl, rfl⟩
    · exact h
    · simp only [conc, beq_self_eq_true, Bool.true_and]
      exact convertList_conc_of (t := b) ih hl hn hxs hys
  · intro g u ys ih v t v' a' h hn hv ha
    obtain ⟨f, xs, rfl, hl⟩ := conc_map_inv h
    rcases convert_map_both hv ha with ⟨rfl, rfl⟩ | ⟨b, xs', ys', rfl, hxs, hys, rfl, rfl⟩
    · exact h
    · simp only [conc, beq_self_eq_true, Bool.true_and]
      exact convertFields_conc_of (t := b) ih hl hn hxs hys
  · intro g ys ih v t v' a' h hn hv ha
    obtain ⟨f, xs, rfl, hl⟩ := conc_tuple_inv h
    rcases convert_tuple_both hv ha with ⟨rfl, rfl⟩ | ⟨b, xs', ys', rfl, hxs, hys, rfl, rfl⟩ |
      ⟨bs, xs', ys', rfl, hxs, hys, rfl, rfl⟩
    · exact h
    · simp only [conc, beq_self_eq_true, Bool.true_and]
      exact convertList_conc_of (t := b) ih hl hn hxs hys
    · simp only [conc]
      exact convertPair_conc_of ih hl hn hxs hys
  · intro g ys ih v t v' a' h hn hv ha
    obtain ⟨f, xs, rfl, hl⟩ := conc_object_inv h
    rcases convert_object_both hv ha with ⟨rfl, rfl⟩ | ⟨b, xs', ys', rfl, hxs, hys, rfl, rfl⟩ |
      ⟨bs, xs', ys', rfl, hxs, hys, rfl, rfl⟩
    · exact h
    · simp only [conc, beq_self_eq_true, Bool.true_and]
      exact convertFields_conc_of (t := b) ih hl hn hxs hys
    · simp only [conc]
      exact convertFieldsTo_conc_of ih hl hn hxs hys

theorem convertList_conc : ∀ (ys xs : List Val) (t : Ty) (xs' ys' : List Val), concL xs ys = true →
    t.noDyn = true → convertList xs t = .ok xs' → convertList ys t = .ok ys' → concL xs' ys' = true :=
  fun _ _ _ _ _ => convertList_conc_of fun y _ => convert_conc y
theorem convertFields_conc : ∀ (ys xs : List (String × Val)) (t : Ty) (xs' ys' : List (String × Val)),
    concF xs ys = true → t.noDyn = true → convertFields xs t = .ok xs' → convertFields ys t = .ok ys' →
    concF xs' ys' = true :=
  fun _ _ _ _ _ => convertFields_conc_of fun p _ => convert_conc p.2
theorem convertPair_conc : ∀ (ys xs : List Val) (ts : List Ty) (xs' ys' : List Val), concL xs ys = true →
    Ty.noDynList ts = true → convertPair xs ts = .ok xs' → convertPair ys ts = .ok ys' → concL xs' ys' = true :=
  fun _ _ _ _ _ => convertPair_conc_of fun y _ => convert_conc y
theorem convertFieldsTo_conc : ∀ (ys xs : List (String × Val)) (ts : List (String × Ty))
    (xs' ys' : List (String × Val)), concF xs ys = true →
    Ty.noDynFields ts = true → convertFieldsTo xs ts = .ok xs' → convertFieldsTo ys ts = .ok ys' →
    concF xs' ys' = true :=
  fun _ _ _ _ _ => convertFieldsTo_conc_of fun p _ => convert_conc p.2

theorem convert_mono {a v : Val} {t : Ty} {v' a' : Val} (h : conc v a = true) (ht : t.paramOk = true)
    (hv : convert v t = .ok v') (ha : convert a t = .ok a') : conc v' a' = true := by
  simp only [Ty.paramOk, Bool.or_eq_true, beq_iff_eq] at ht
  rcases ht with rfl | ht
  · rw [convert_dyn] at hv ha; cases hv; cases ha; exact h
  · exact convert_conc a v t v' a' h ht hv ha

end HclModel.Proofs.Unk
