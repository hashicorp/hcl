import HclModel.Expr.Taint
import Proofs.ValueConvert
/-!
C19: value-level lemmas about `tw` ("nothing tainted is exposed").
-/
namespace HclModel.Proofs
open Val

/-- a flag pair that exposes no taint -/
def flOK (f : Fl) : Prop := f.g = true → f.m = true

theorem flOK_none : flOK Fl.none := by intro h; cases h
theorem flOK_join {a b : Fl} (ha : flOK a) (hb : flOK b) : flOK (a.join b) := by
  intro h
  simp only [join_g, join_m, Bool.or_eq_true] at h ⊢
  rcases h with h | h
  · exact Or.inl (ha h)
  · exact Or.inr (hb h)

/-- the part of `tw` below the top flags: `tw i v` tests `v.fl` and then `twKids (i || v.fl.m) v` (`tw_eq`) -/
def twKids (i : Bool) : Val → Bool
  | .list _ _ xs => twL i xs
  | .tuple _ xs => twL i xs
  | .map _ _ kvs => twF i kvs
  | .object _ kvs => twF i kvs
  | _ => true

theorem tw_eq (i : Bool) (v : Val) :
    tw i v = ((!v.fl.g || (i || v.fl.m)) && twKids (i || v.fl.m) v) := by
  cases v <;> simp [tw, twKids]

theorem twKids_setFl (i : Bool) (v : Val) (f : Fl) : twKids i (v.setFl f) = twKids i v := by
  cases v <;> rfl

mutual
theorem tw_true : ∀ v : Val, tw true v = true
  | .unk _ _ | .null _ _ | .str _ _ | .num _ _ | .bool _ _ => by simp [tw]
  | .list _ _ xs => by simp [tw, twL_true xs]
  | .tuple _ xs => by simp [tw, twL_true xs]
  | .map _ _ xs => by simp [tw, twF_true xs]
  | .object _ xs => by simp [tw, twF_true xs]
theorem twL_true : ∀ xs : List Val, twL true xs = true
  | [] => by simp [twL]
  | x :: xs => by simp [twL, tw_true x, twL_true xs]
theorem twF_true : ∀ xs : List (String × Val), twF true xs = true
  | [] => by simp [twF]
  | (_, x) :: xs => by simp [twF, tw_true x, twF_true xs]
end

theorem twKids_true (v : Val) : twKids true v = true := by
  cases v <;> simp [twKids, twL_true, twF_true]

theorem tw_mono {v : Val} {i j : Bool} (hij : i = true → j = true) (h : tw i v = true) : tw j v = true := by
  cases i <;> cases j
  · exact h
  · exact tw_true v
  · simp at hij
  · exact h

theorem twKids_mono {v : Val} {i j : Bool} (hij : i = true → j = true) (h : twKids i v = true) :
    twKids j v = true := by
  cases i <;> cases j
  · exact h
  · exact twKids_true v
  · simp at hij
  · exact h

theorem tw_of_top {v : Val} {i : Bool} (h : (i || v.fl.m) = true) : tw i v = true := by
  rw [tw_eq, h]; simp [twKids_true]

theorem tw_top {v : Val} {i : Bool} (h : tw i v = true) (hg : v.fl.g = true) : i = true ∨ v.fl.m = true := by
  rw [tw_eq] at h
  simp only [Bool.and_eq_true, Bool.or_eq_true, Bool.not_eq_true'] at h
  rcases h.1 with h | h
  · rw [hg] at h; cases h
  · exact h

theorem tw_flOK {v : Val} (h : tw false v = true) : flOK v.fl := by
  intro hg
  rcases tw_top h hg with h | h
  · cases h
  · exact h

theorem tw_kids {v : Val} {i : Bool} (h : tw i v = true) : twKids (i || v.fl.m) v = true := by
  rw [tw_eq] at h
  simp only [Bool.and_eq_true] at h
  exact h.2

theorem tw_setFl_eq (i : Bool) (v : Val) (f : Fl) :
    tw i (v.setFl f) = ((!f.g || (i || f.m)) && twKids (i || f.m) v) := by
  rw [tw_eq, fl_setFl, twKids_setFl]

theorem tw_withFl_cover {v : Val} {f : Fl} {i : Bool} (h : tw i v = true) (hi : i = true → f.m = true)
    (hf : flOK f) : tw false (v.withFl f) = true := by
  unfold withFl
  rw [tw_setFl_eq]
  simp only [join_g, join_m, Bool.false_or, Bool.and_eq_true, Bool.or_eq_true, Bool.not_eq_true']
  constructor
  · cases hvg : v.fl.g
    · cases hfg : f.g
      · simp
      · simp [hf hfg]
    · rcases tw_top h hvg with h1 | h1
      · exact Or.inr (Or.inr (hi h1))
      · exact Or.inr (Or.inl h1)
  · refine twKids_mono ?_ (tw_kids h)
    intro h1
    simp only [Bool.or_eq_true] at h1 ⊢
    rcases h1 with h1 | h1
    · exact Or.inr (hi h1)
    · exact Or.inl h1

theorem tw_withFl {v : Val} {f : Fl} (h : tw false v = true) (hf : flOK f) : tw false (v.withFl f) = true :=
  tw_withFl_cover h (by intro h; cases h) hf

theorem tw_withFl_marked (v : Val) {f : Fl} (hm : f.m = true) : tw false (v.withFl f) = true :=
  tw_of_top (by simp [hm])

theorem tw_unmark {v : Val} {i : Bool} (h : tw i v = true) : tw (i || v.fl.m) v.unmark.1 = true := by
  rw [unmark_fst, tw_setFl_eq]
  simp only [unmark_g, unmark_m, Bool.or_false, Bool.and_eq_true, Bool.or_eq_true, Bool.not_eq_true']
  refine ⟨?_, tw_kids h⟩
  cases hg : v.fl.g
  · exact Or.inl rfl
  · exact Or.inr (tw_top h hg)

theorem tw_dynVal (i : Bool) : tw i Val.dynVal = true := by simp [Val.dynVal, tw, Fl.none]

theorem twL_mem {i : Bool} : ∀ {xs : List Val}, twL i xs = true → ∀ x ∈ xs, tw i x = true
  | [], _, _, hx => by cases hx
  | y :: ys, h, x, hx => by
    simp only [twL, Bool.and_eq_true] at h
    rcases List.mem_cons.mp hx with rfl | hx
    · exact h.1
    · exact twL_mem h.2 x hx

theorem twL_of_mem {i : Bool} : ∀ {xs : List Val}, (∀ x ∈ xs, tw i x = true) → twL i xs = true
  | [], _ => by simp [twL]
  | y :: ys, h => by
    simp only [twL, Bool.and_eq_true]
    exact ⟨h y (by simp), twL_of_mem fun x hx => h x (by simp [hx])⟩

theorem twF_mem {i : Bool} : ∀ {xs : List (String × Val)}, twF i xs = true → ∀ p ∈ xs, tw i p.2 = true
  | [], _, _, hx => by cases hx
  | (k, y) :: ys, h, p, hp => by
    simp only [twF, Bool.and_eq_true] at h
    rcases List.mem_cons.mp hp with rfl | hp
    · exact h.1
    · exact twF_mem h.2 p hp

theorem twF_of_mem {i : Bool} : ∀ {xs : List (String × Val)}, (∀ p ∈ xs, tw i p.2 = true) → twF i xs = true
  | [], _ => by simp [twF]
  | (k, y) :: ys, h => by
    simp only [twF, Bool.and_eq_true]
    exact ⟨h (k, y) (by simp), twF_of_mem fun p hp => h p (by simp [hp])⟩

theorem twF_lookup {i : Bool} {xs : List (String × Val)} {k : String} {x : Val} (h : twF i xs = true)
    (hl : lookupKey k xs = some x) : tw i x = true :=
  twF_mem h _ (mem_of_lookupKey hl)

/-- the step of `flagsDeep_tw` at a collection with the flags `f` whose children have the flags `r` together -/
theorem join_tw {f r : Fl} {i : Bool} (h1 : (!f.g || (i || f.m)) = true)
    (h2 : r.g = true → (i || f.m) = true ∨ r.m = true) (hg : (f.join r).g = true) :
    i = true ∨ (f.join r).m = true := by
  simp only [join_g, join_m, Bool.or_eq_true, Bool.not_eq_true'] at h1 h2 hg ⊢
  rcases hg with hg | hg
  · rcases h1 with h1 | h1 | h1
    · rw [hg] at h1; cases h1
    · exact Or.inl h1
    · exact Or.inr (Or.inl h1)
  · rcases h2 hg with (h | h) | h
    · exact Or.inl h
    · exact Or.inr (Or.inl h)
    · exact Or.inr (Or.inr h)

mutual
theorem flagsDeep_tw : ∀ (v : Val) (i : Bool), tw i v = true → (flagsDeep v).g = true →
    i = true ∨ (flagsDeep v).m = true
  | .unk f _, i, h, hg | .null f _, i, h, hg | .str f _, i, h, hg | .num f _, i, h, hg | .bool f _, i, h, hg => by
    simp only [tw, Bool.or_eq_true, Bool.not_eq_true'] at h
    simp only [flagsDeep, Val.fl] at hg ⊢
    rcases h with h1 | h1 | h1
    · rw [hg] at h1; cases h1
    · exact Or.inl h1
    · exact Or.inr h1
  | .list f _ xs, i, h, hg | .tuple f xs, i, h, hg => by
    simp only [tw, Bool.and_eq_true] at h
    exact join_tw h.1 (flagsDeepList_tw xs _ h.2) hg
  | .map f _ xs, i, h, hg | .object f xs, i, h, hg => by
    simp only [tw, Bool.and_eq_true] at h
    exact join_tw h.1 (flagsDeepFields_tw xs _ h.2) hg
theorem flagsDeepList_tw : ∀ (xs : List Val) (i : Bool), twL i xs = true → (flagsDeepList xs).g = true →
    i = true ∨ (flagsDeepList xs).m = true
  | [], _, _, hg => by simp [flagsDeepList] at hg
  | x :: xs, i, h, hg => by
    simp only [twL, Bool.and_eq_true] at h
    simp only [flagsDeepList, join_g, join_m, Bool.or_eq_true] at hg ⊢
    rcases hg with hg | hg
    · rcases flagsDeep_tw x i h.1 hg with h1 | h1
      · exact Or.inl h1
      · exact Or.inr (Or.inl h1)
    · rcases flagsDeepList_tw xs i h.2 hg with h1 | h1
      · exact Or.inl h1
      · exact Or.inr (Or.inr h1)
theorem flagsDeepFields_tw : ∀ (xs : List (String × Val)) (i : Bool), twF i xs = true →
    (flagsDeepFields xs).g = true → i = true ∨ (flagsDeepFields xs).m = true
  | [], _, _, hg => by simp [flagsDeepFields] at hg
  | (_, x) :: xs, i, h, hg => by
    simp only [twF, Bool.and_eq_true] at h
    simp only [flagsDeepFields, join_g, join_m, Bool.or_eq_true] at hg ⊢
    rcases hg with hg | hg
    · rcases flagsDeep_tw x i h.1 hg with h1 | h1
      · exact Or.inl h1
      · exact Or.inr (Or.inl h1)
    · rcases flagsDeepFields_tw xs i h.2 hg with h1 | h1
      · exact Or.inl h1
      · exact Or.inr (Or.inr h1)
end

theorem flagsDeep_flOK {v : Val} (h : tw false v = true) : flOK (flagsDeep v) := by
  intro hg
  rcases flagsDeep_tw v false h hg with h1 | h1
  · cases h1
  · exact h1

mutual
theorem tw_of_untainted : ∀ (v : Val) (i : Bool), (flagsDeep v).g = false → tw i v = true
  | .unk f _, i, h | .null f _, i, h | .str f _, i, h | .num f _, i, h | .bool f _, i, h => by
    simp only [flagsDeep, Val.fl] at h
    simp [tw, h]
  | .list f _ xs, i, h | .tuple f xs, i, h => by
    simp only [flagsDeep, join_g, Bool.or_eq_false_iff] at h
    simp [tw, h.1, twL_of_untainted xs _ h.2]
  | .map f _ xs, i, h | .object f xs, i, h => by
    simp only [flagsDeep, join_g, Bool.or_eq_false_iff] at h
    simp [tw, h.1, twF_of_untainted xs _ h.2]
theorem twL_of_untainted : ∀ (xs : List Val) (i : Bool), (flagsDeepList xs).g = false → twL i xs = true
  | [], _, _ => by simp [twL]
  | x :: xs, i, h => by
    simp only [flagsDeepList, join_g, Bool.or_eq_false_iff] at h
    simp [twL, tw_of_untainted x i h.1, twL_of_untainted xs i h.2]
theorem twF_of_untainted : ∀ (xs : List (String × Val)) (i : Bool), (flagsDeepFields xs).g = false →
    twF i xs = true
  | [], _, _ => by simp [twF]
  | (_, x) :: xs, i, h => by
    simp only [flagsDeepFields, join_g, Bool.or_eq_false_iff] at h
    simp [twF, tw_of_untainted x i h.1, twF_of_untainted xs i h.2]
end

mutual
theorem flagsDeep_unmarkDeep_g : ∀ v : Val, (flagsDeep (unmarkDeep v)).g = (flagsDeep v).g
  | .unk _ _ | .null _ _ | .str _ _ | .num _ _ | .bool _ _ => by simp [unmarkDeep, flagsDeep, setFl]
  | .list _ _ xs => by simp [unmarkDeep, flagsDeep, flagsDeepList_unmarkDeep_g xs]
  | .tuple _ xs => by simp [unmarkDeep, flagsDeep, flagsDeepList_unmarkDeep_g xs]
  | .map _ _ xs => by simp [unmarkDeep, flagsDeep, flagsDeepFields_unmarkDeep_g xs]
  | .object _ xs => by simp [unmarkDeep, flagsDeep, flagsDeepFields_unmarkDeep_g xs]
theorem flagsDeepList_unmarkDeep_g : ∀ xs : List Val, (flagsDeepList (unmarkDeepList xs)).g = (flagsDeepList xs).g
  | [] => by simp [unmarkDeepList, flagsDeepList]
  | x :: xs => by simp [unmarkDeepList, flagsDeepList, flagsDeep_unmarkDeep_g x, flagsDeepList_unmarkDeep_g xs]
theorem flagsDeepFields_unmarkDeep_g : ∀ xs : List (String × Val),
    (flagsDeepFields (unmarkDeepFields xs)).g = (flagsDeepFields xs).g
  | [] => by simp [unmarkDeepFields, flagsDeepFields]
  | (_, x) :: xs => by
    simp [unmarkDeepFields, flagsDeepFields, flagsDeep_unmarkDeep_g x, flagsDeepFields_unmarkDeep_g xs]
end

theorem untainted_of_tw {v : Val} (h : tw false v = true) (hm : (flagsDeep v).m = false) :
    untainted v = true := by
  unfold untainted
  cases hg : (flagsDeep v).g
  · rfl
  · rcases flagsDeep_tw v false h hg with h1 | h1
    · cases h1
    · rw [hm] at h1; cases h1

theorem tw_of_fl_eq {a x : Val} {i : Bool} (h : tw i a = true) (hf : x.fl = a.fl)
    (hx : twKids (i || x.fl.m) x = true) : tw i x = true := by
  rw [tw_eq] at h ⊢
  simp only [Bool.and_eq_true] at h ⊢
  exact ⟨by rw [hf]; exact h.1, hx⟩

theorem twKids_leaf {x : Val} (h : isLeaf x = true) (i : Bool) : twKids i x = true := by
  cases x <;> simp [isLeaf] at h <;> rfl

theorem tw_list_eq (i : Bool) (f : Fl) (t : Ty) (xs : List Val) :
    tw i (.list f t xs) = ((!f.g || (i || f.m)) && twL (i || f.m) xs) := by simp [tw]
theorem tw_tuple_eq (i : Bool) (f : Fl) (xs : List Val) :
    tw i (.tuple f xs) = ((!f.g || (i || f.m)) && twL (i || f.m) xs) := by simp [tw]
theorem tw_map_eq (i : Bool) (f : Fl) (t : Ty) (xs : List (String × Val)) :
    tw i (.map f t xs) = ((!f.g || (i || f.m)) && twF (i || f.m) xs) := by simp [tw]
theorem tw_object_eq (i : Bool) (f : Fl) (xs : List (String × Val)) :
    tw i (.object f xs) = ((!f.g || (i || f.m)) && twF (i || f.m) xs) := by simp [tw]

/-- `convert` keeps the invariant: the statement about one value, as the induction over values needs it -/
def ConvTw (a : Val) : Prop := ∀ t x i, tw i a = true → convert a t = .ok x → tw i x = true

theorem convertPair_tw_of {i : Bool} : ∀ {xs : List Val} {ts : List Ty} {xs' : List Val}, (∀ x ∈ xs, ConvTw x) →
    twL i xs = true → convertPair xs ts = .ok xs' → twL i xs' = true
  | [], _, _, _, _, hx => by rw [convertPair_nil_left] at hx; cases hx; rfl
  | _ :: _, [], _, _, _, hx => by rw [convertPair_nil_right] at hx; cases hx; rfl
  | x :: xs, t :: ts, _, ih, h, hx => by
    simp only [twL, Bool.and_eq_true] at h
    obtain ⟨x', xs', hx1, hx2, rfl⟩ := convertPair_cons_ok.mp hx
    simp only [twL, Bool.and_eq_true]
    exact ⟨ih x (by simp) t x' i h.1 hx1, convertPair_tw_of (fun z hz => ih z (by simp [hz])) h.2 hx2⟩

theorem convertFieldsTo_tw_of {i : Bool} : ∀ {xs : List (String × Val)} {ts : List (String × Ty)}
    {xs' : List (String × Val)}, (∀ p ∈ xs, ConvTw p.2) →
    twF i xs = true → convertFieldsTo xs ts = .ok xs' → twF i xs' = true
  | [], _, _, _, _, hx => by rw [convertFieldsTo_nil_left] at hx; cases hx; rfl
  | _ :: _, [], _, _, _, hx => by rw [convertFieldsTo_nil_right] at hx; cases hx; rfl
  | (k, x) :: xs, (_, t) :: ts, _, ih, h, hx => by
    simp only [twF, Bool.and_eq_true] at h
    obtain ⟨x', xs', hx1, hx2, rfl⟩ := convertFieldsTo_cons_ok.mp hx
    simp only [twF, Bool.and_eq_true]
    exact ⟨ih (k, x) (by simp) t x' i h.1 hx1, convertFieldsTo_tw_of (fun z hz => ih z (by simp [hz])) h.2 hx2⟩

theorem convertList_tw_of {t : Ty} {i : Bool} {xs xs' : List Val} (ih : ∀ x ∈ xs, ConvTw x)
    (h : twL i xs = true) (hx : convertList xs t = .ok xs') : twL i xs' = true :=
  convertPair_tw_of ih h (convertPair_of_convertList hx)

theorem convertFields_tw_of {t : Ty} {i : Bool} {xs xs' : List (String × Val)} (ih : ∀ p ∈ xs, ConvTw p.2)
    (h : twF i xs = true) (hx : convertFields xs t = .ok xs') : twF i xs' = true :=
  convertFieldsTo_tw_of ih h (convertFieldsTo_of_convertFields hx)

/-- A leaf stays a leaf with the same flags; a collection keeps the flags of its top node, and its children
    are converted one by one. -/
theorem convert_tw : ∀ a : Val, ConvTw a := by
  refine val_induction ?_ ?_ ?_ ?_ ?_
  · intro a hl t x i h hx
    obtain ⟨hl', hf, _⟩ := convert_leaf hl hx
    exact tw_of_fl_eq h hf (twKids_leaf hl' _)
  · intro f u xs ih t x i h hx
    rcases convert_list_inv hx with ⟨_, rfl⟩ | ⟨b, xs', rfl, hxs, rfl⟩
    · exact h
    · rw [tw_list_eq, Bool.and_eq_true] at h ⊢
      exact ⟨h.1, convertList_tw_of ih h.2 hxs⟩
  · intro f u xs ih t x i h hx
    rcases convert_map_inv hx with ⟨_, rfl⟩ | ⟨b, xs', rfl, hxs, rfl⟩
    · exact h
    · rw [tw_map_eq, Bool.and_eq_true] at h ⊢
      exact ⟨h.1, convertFields_tw_of ih h.2 hxs⟩
  · intro f xs ih t x i h hx
    rw [tw_tuple_eq, Bool.and_eq_true] at h
    rcases convert_tuple_inv hx with ⟨_, rfl⟩ | ⟨b, xs', rfl, hxs, rfl⟩ | ⟨bs, xs', rfl, _, hxs, rfl⟩
    · rw [tw_tuple_eq, Bool.and_eq_true]; exact h
    · rw [tw_list_eq, Bool.and_eq_true]; exact ⟨h.1, convertList_tw_of ih h.2 hxs⟩
    · rw [tw_tuple_eq, Bool.and_eq_true]; exact ⟨h.1, convertPair_tw_of ih h.2 hxs⟩
  · intro f xs ih t x i h hx
    rw [tw_object_eq, Bool.and_eq_true] at h
    rcases convert_object_inv hx with ⟨_, rfl⟩ | ⟨b, xs', rfl, hxs, rfl⟩ | ⟨bs, xs', rfl, _, hxs, rfl⟩
    · rw [tw_object_eq, Bool.and_eq_true]; exact h
    · rw [tw_map_eq, Bool.and_eq_true]; exact ⟨h.1, convertFields_tw_of ih h.2 hxs⟩
    · rw [tw_object_eq, Bool.and_eq_true]; exact ⟨h.1, convertFieldsTo_tw_of ih h.2 hxs⟩

theorem convertFields_tw : ∀ (xs : List (String × Val)) (t : Ty) (xs' : List (String × Val)) (i : Bool),
    twF i xs = true → convertFields xs t = .ok xs' → twF i xs' = true :=
  fun _ _ _ _ => convertFields_tw_of fun p _ => convert_tw p.2
theorem convertFieldsTo_tw : ∀ (xs : List (String × Val)) (ts : List (String × Ty)) (xs' : List (String × Val))
    (i : Bool), twF i xs = true → convertFieldsTo xs ts = .ok xs' → twF i xs' = true :=
  fun _ _ _ _ => convertFieldsTo_tw_of fun p _ => convert_tw p.2

theorem tryConvert_tw {a : Val} {t : Ty} {x : Val} {i : Bool} (h : tw i a = true)
    (hx : tryConvert a t = .ok x) : tw i x = true :=
  convert_tw a t x i h (tryConvert_ok hx)

end HclModel.Proofs
