import Proofs.DynLevel
/-!
Two steps = one step for expanded bodies (`XBody.partialContent` with `s₁`, then `XBody.content` of the
remaining body with a disjoint `s₂`, against one `XBody.content` with the union).
-/
namespace HclModel.Dyn.Proofs
open HclModel HclModel.Body HclModel.Dyn HclModel.Body.Proofs

section seg
variable (ev : Env → Expr → Out) (ρf : Env) (its : Iters) (s₁ s₂ : Schema) (hd : s₁.disjoint s₂)
include hd

/-- a block of a type that `s₁` names is handled by the first step -/
theorem xSeg_left (blk : SBlock) (h : ∃ bs ∈ s₁.blocks, bs.type = SBlock.ty blk) :
    xSeg ev ρf its [] (s₁.union s₂) blk = xSeg ev ρf its [] s₁ blk ∧
    xSeg ev ρf its s₁.blocks s₂ blk = [] := by
  have hany : s₁.blocks.any (·.type == SBlock.ty blk) = true :=
    List.any_eq_true.2 (h.imp fun _ hb => ⟨hb.1, beq_iff_eq.2 hb.2⟩)
  cases blk with
  | static t ls body =>
    simp only [SBlock.ty] at h hany
    constructor
    · simp only [xSeg, wanted_union_named hd.2 h]
    · simp only [xSeg, hany, if_true]
  | dyn t fe itn labels content =>
    simp only [SBlock.ty] at h hany
    constructor
    · obtain ⟨bs, hbs⟩ : ∃ bs, s₁.blocks.find? (·.type == t) = some bs :=
        Option.isSome_iff_exists.1 (List.find?_isSome.2 (h.imp fun _ hb => ⟨hb.1, beq_iff_eq.2 hb.2⟩))
      simp only [xSeg, Schema.union, List.find?_append, hbs, Option.some_or]
    · simp only [xSeg, hany, if_true]

omit hd in
/-- a block of a type that `s₁` does not name is handled by the second step -/
theorem xSeg_right (blk : SBlock) (h : ¬ ∃ bs ∈ s₁.blocks, bs.type = SBlock.ty blk) :
    xSeg ev ρf its [] (s₁.union s₂) blk = xSeg ev ρf its s₁.blocks s₂ blk ∧
    xSeg ev ρf its [] s₁ blk = [] := by
  have hany : ¬ (s₁.blocks.any (·.type == SBlock.ty blk) = true) := fun e =>
    h ((List.any_eq_true.1 e).imp fun _ hb => ⟨hb.1, beq_iff_eq.1 hb.2⟩)
  cases blk with
  | static t ls body =>
    simp only [SBlock.ty] at h hany
    have hw : wanted s₁ t = none := by
      rw [wanted_eq_none_iff]; intro bs hbs e; exact h ⟨bs, hbs, e⟩
    constructor
    · simp only [xSeg, wanted_union_right h, hany, if_false, List.any_nil, Bool.false_eq_true]
    · simp only [xSeg, hw, List.any_nil, Bool.false_eq_true, if_false]
  | dyn t fe itn labels content =>
    simp only [SBlock.ty] at h hany
    have hf : s₁.blocks.find? (·.type == t) = none :=
      List.find?_eq_none.2 fun x hx e => h ⟨x, hx, beq_iff_eq.1 e⟩
    constructor
    · simp only [xSeg, Schema.union, List.find?_append, hf, Option.none_or, hany, if_false, List.any_nil,
        Bool.false_eq_true]
    · simp only [xSeg, hf, List.any_nil, Bool.false_eq_true, if_false]

theorem segs_two_step (blocks : List SBlock) (ty : String) :
    (blocks.flatMap (xSeg ev ρf its [] (s₁.union s₂))).filter (·.type == ty) =
      (blocks.flatMap (xSeg ev ρf its [] s₁)).filter (·.type == ty) ++
      (blocks.flatMap (xSeg ev ρf its s₁.blocks s₂)).filter (·.type == ty) := by
  -- only the source blocks of type `ty` matter, and one of the two steps handles them all
  have key : ∀ hB s, (blocks.flatMap (xSeg ev ρf its hB s)).filter (·.type == ty) =
      (blocks.filter (SBlock.ty · == ty)).flatMap (xSeg ev ρf its hB s) := fun hB s =>
    filter_flatMap_key _ _ _ _ fun blk _ xb hxb => by rw [(xSeg_mem hxb).1]
  have hty' : ∀ blk ∈ blocks.filter (SBlock.ty · == ty), SBlock.ty blk = ty := fun blk hb =>
    beq_iff_eq.1 (List.mem_filter.1 hb).2
  rw [key, key, key]
  by_cases hty : ∃ bs ∈ s₁.blocks, bs.type = ty
  · rw [List.flatMap_eq_nil_iff.2 fun blk hb => (xSeg_left ev ρf its s₁ s₂ hd blk (hty' blk hb ▸ hty)).2,
      List.append_nil]
    exact flatMap_congr' fun blk hb => (xSeg_left ev ρf its s₁ s₂ hd blk (hty' blk hb ▸ hty)).1
  · rw [List.flatMap_eq_nil_iff.2 fun blk hb => (xSeg_right ev ρf its s₁ s₂ blk (hty' blk hb ▸ hty)).2,
      List.nil_append]
    exact flatMap_congr' fun blk hb => (xSeg_right ev ρf its s₁ s₂ blk (hty' blk hb ▸ hty)).1

end seg

theorem filter_type_map_fixB (u : Option Fl) (ty : String) (l : List XBlock) :
    (l.map (fixB u)).filter (·.type == ty) = (l.filter (·.type == ty)).map (fixB u) :=
  List.filter_map  -- `fixB` leaves the type alone

/-- the exact form: the same attributes, and per block type the same blocks -/
theorem expand_two_step_exact (ev : Env → Expr → Out) (ρf : Env) (b : XBody) (s₁ s₂ : Schema)
    (hb : b.src.ok = true) (hh : b.hiddenAttrs = [] ∧ b.hiddenBlocks = [])
    (h₁ : (s₁.attrs.map (·.name)).Nodup) (h₂ : (s₂.attrs.map (·.name)).Nodup) (hd : s₁.disjoint s₂)
    (hdyn : ∀ bs ∈ s₁.blocks, bs.type ≠ "dynamic") :
    (b.content ev ρf (s₁.union s₂)).1.attrs =
      (b.partialContent ev ρf s₁).1.attrs ++ ((b.partialContent ev ρf s₁).2.1.content ev ρf s₂).1.attrs ∧
    ∀ ty, (b.content ev ρf (s₁.union s₂)).1.blocks.filter (·.type == ty) =
      ((b.partialContent ev ρf s₁).1.blocks ++ ((b.partialContent ev ρf s₁).2.1.content ev ρf s₂).1.blocks).filter
        (·.type == ty) := by
  obtain ⟨src, its, marks, unknown, hA, hB⟩ := b
  simp only at hh hb
  obtain ⟨rfl, rfl⟩ := hh
  have hsok := SBody.ok_blocks hb
  simp only [XBody.content, XBody.partialContent]
  constructor
  · rw [contentCore_attrs ev ρf _ (s₁.union s₂) false (by simpa [Schema.union] using nodup_map_append h₁ h₂ hd.1),
      contentCore_attrs ev ρf _ s₁ true (by simpa using h₁),
      contentCore_attrs ev ρf _ s₂ false
        (nodup_map_append h₂ h₁ fun x hx y hy e => hd.1 y hy x hx e.symm)]
    simp only [Schema.union, List.filterMap_append, List.map_append]
  · intro ty
    rw [contentCore_blocks ev ρf _ (s₁.union s₂) false (by simp) hsok,
      contentCore_blocks ev ρf _ s₁ true (by simp) hsok,
      contentCore_blocks ev ρf _ s₂ false (by simpa using hdyn) hsok]
    simp only [List.nil_append, List.filter_append, filter_type_map_fixB]
    rw [segs_two_step ev ρf its s₁ s₂ hd, List.map_append]

/-- the form stated in `Props/C18.lean`: what a consumer can observe of the attributes and blocks -/
theorem expand_two_step (ev : Env → Expr → Out) (ρf : Env) (b : XBody) (s₁ s₂ : Schema)
    (hb : b.src.ok = true) (hh : b.hiddenAttrs = [] ∧ b.hiddenBlocks = [])
    (h₁ : s₁.nodup) (h₂ : s₂.nodup) (hd : s₁.disjoint s₂)
    (hdyn : ∀ bs ∈ s₁.blocks ++ s₂.blocks, bs.type ≠ "dynamic") :
    let p := b.partialContent ev ρf s₁
    let c₂ := (p.2.1.content ev ρf s₂).1
    let c := (b.content ev ρf (s₁.union s₂)).1
    c.attrs.map (fun a => (a.1, a.2.expr, a.2.its, a.2.marks, a.2.unknown)) =
      (p.1.attrs ++ c₂.attrs).map (fun a => (a.1, a.2.expr, a.2.its, a.2.marks, a.2.unknown)) ∧
    (∀ ty, (c.blocks.filter (·.type == ty)).map (fun x => (x.labels, x.body.its, x.body.marks, x.body.unknown)) =
      ((p.1.blocks ++ c₂.blocks).filter (·.type == ty)).map (fun x => (x.labels, x.body.its, x.body.marks, x.body.unknown))) := by
  intro p c₂ c
  obtain ⟨ha, hbk⟩ := expand_two_step_exact ev ρf b s₁ s₂ hb hh h₁.1 h₂.1 hd
    fun bs hbs => hdyn bs (List.mem_append_left _ hbs)
  exact ⟨congrArg _ ha, fun ty => congrArg _ (hbk ty)⟩

end HclModel.Dyn.Proofs
