import HclModel.Syntax.OpParser
/-!
C01, operator grammar: for every level table, the precedence-climbing parser reads a well-parenthesised tree
back from its rendering (`parse_render`).  The proof cuts an operator application along its left spine.
-/
namespace HclModel.OpParser

theorem loopLevel_below (T : Tbl) (fuel d : Nat) (lhs : E) (toks : List Tok)
    (h : Below T (d+1) toks) : loopLevel T fuel d lhs toks = some (lhs, toks) := by
  unfold loopLevel
  split
  · next k rest =>
    have : T.lv k ≠ some d := fun hk => absurd (h d hk) (by omega)
    rw [if_neg this]
  · rfl

theorem Below_mono (T : Tbl) {i j : Nat} (hij : i ≤ j) {toks} (h : Below T j toks) : Below T i toks := by
  unfold Below at h ⊢
  split
  · exact fun a ha => Nat.le_trans hij (h a ha)
  · trivial

theorem loops_below (T : Tbl) (fuel : Nat) : ∀ (n a : Nat) (lhs : E) (toks : List Tok),
    Below T (a + n) toks → loops T fuel a n lhs toks = some (lhs, toks)
  | 0, a, lhs, toks, _ => by simp [loops]
  | n+1, a, lhs, toks, h => by
    have h1 : Below T (a+1) toks := Below_mono T (by omega) h
    simp [loops, loopLevel_below T fuel a lhs toks h1]
    exact loops_below T fuel n (a+1) lhs toks (by simpa [Nat.add_assoc, Nat.add_comm 1 n] using h)

theorem loops_succ (T : Tbl) (fuel : Nat) : ∀ (m b : Nat) (x : E) (ts : List Tok),
    loops T fuel b (m+1) x ts =
      match loops T fuel b m x ts with
      | none => none
      | some (l', r') => loopLevel T fuel (b + m) l' r'
  | 0, b, x, ts => by simp only [loops]; cases loopLevel T fuel b x ts <;> rfl
  | m+1, b, x, ts => by
    rw [loops, loops]
    cases loopLevel T fuel b x ts with
    | none => rfl
    | some q =>
      obtain ⟨l, r⟩ := q
      show loops T fuel (b+1) (m+1) l r = _
      rw [loops_succ T fuel m (b+1), show b + 1 + m = b + (m+1) by omega]

theorem parseLevel_unroll (T : Tbl) (fuel : Nat) : ∀ (n a : Nat) (toks : List Tok),
    parseLevel T fuel (a + n) toks =
      match parseLevel T fuel a toks with
      | none => none
      | some (lhs, r) => loops T fuel (a+1) n lhs r
  | 0, a, toks => by
    simp only [loops, Nat.add_zero]; cases parseLevel T fuel a toks <;> rfl
  | n+1, a, toks => by
    rw [show a + (n+1) = (a + n) + 1 by omega, parseLevel.eq_def]
    simp only [parseLevel_unroll T fuel n a toks]
    cases parseLevel T fuel a toks with
    | none => rfl
    | some p =>
      obtain ⟨lhs, r⟩ := p
      show _ = loops T fuel (a+1) (n+1) lhs r
      rw [loops_succ, show a + 1 + n = a + n + 1 by omega]; rfl

theorem parseLevel_of_term (T : Tbl) (fuel d : Nat) (toks rest : List Tok) (e : E)
    (ht : parseTerm T fuel toks = some (e, rest)) (hb : Below T (d+1) rest) :
    parseLevel T fuel d toks = some (e, rest) := by
  have := parseLevel_unroll T fuel d 0 toks
  simp only [Nat.zero_add] at this
  rw [this, parseLevel.eq_def]; simp only [ht]
  exact loops_below T fuel d 1 e rest (by simpa [Nat.add_comm] using hb)

/-! An application of an operator of depth `j+1` is cut along its left spine: the operators of depth `j+1` met
    going down the left operands, each with its right operand (`ps`), and the base `b` where the descent stops.
    The loop at depth `j+1` consumes exactly these pairs: `flat ps` is what is rendered after `b`, `costs ps` the fuel
    it takes, `rebuild b ps` the tree that results.  `size` is the measure of the induction in `parseLevel_render`. -/

def size : E → Nat
  | .atom _ => 1
  | .bin _ l r => size l + size r + 1
  | .paren e => size e + 1

def flat : List (Nat × E) → List Tok
  | [] => []
  | (k, r) :: ps => Tok.op k :: (render r ++ flat ps)

def rebuild (b : E) (ps : List (Nat × E)) : E := ps.foldl (fun acc p => E.bin p.1 acc p.2) b

def costs : List (Nat × E) → Nat
  | [] => 0
  | (_, r) :: ps => 1 + cost r + costs ps

theorem flat_append (ps qs : List (Nat × E)) : flat (ps ++ qs) = flat ps ++ flat qs := by
  induction ps with
  | nil => simp [flat]
  | cons p ps ih => obtain ⟨k, r⟩ := p; simp [flat, ih]

theorem costs_append (ps qs : List (Nat × E)) : costs (ps ++ qs) = costs ps + costs qs := by
  induction ps with
  | nil => simp [costs]
  | cons p ps ih => obtain ⟨k, r⟩ := p; simp [costs, ih]; omega

theorem WP_bin_inv {T : Tbl} {d k : Nat} {l r : E} (h : WP T d (.bin k l r)) :
    ∃ j, T.lv k = some j ∧ j ≤ d ∧ WP T j l ∧ WP T (j-1) r := by
  cases h with
  | bin _ _ j _ _ h1 h2 h3 h4 => exact ⟨j, h1, h2, h3, h4⟩

theorem WP_paren_inv {T : Tbl} {d : Nat} {e : E} (h : WP T d (.paren e)) : WP T T.L e := by
  cases h with
  | paren _ _ h1 => exact h1

/-- the descent stops at a left operand that the depths below `j+1` parse -/
theorem spine_stop (T : Tbl) {j k : Nat} {l r : E} (hk : T.lv k = some (j+1)) (hl : WP T j l) (hr : WP T j r) :
    ∃ b ps, render (.bin k l r) = render b ++ flat ps ∧ cost (.bin k l r) = cost b + costs ps ∧
      rebuild b ps = .bin k l r ∧ WP T j b ∧ size b < size (.bin k l r) ∧
      ∀ p ∈ ps, T.lv p.1 = some (j+1) ∧ WP T j p.2 ∧ size p.2 < size (.bin k l r) :=
  ⟨l, [(k, r)], by simp [render, flat], by simp [cost, costs]; omega, rfl, hl, by simp [size]; omega,
    by simp [hk, hr, size]; omega⟩

theorem spine_split (T : Tbl) {j k : Nat} {l r : E} (hk : T.lv k = some (j+1)) (hl : WP T (j+1) l)
    (hr : WP T j r) :
    ∃ b ps, render (.bin k l r) = render b ++ flat ps ∧ cost (.bin k l r) = cost b + costs ps ∧
      rebuild b ps = .bin k l r ∧ WP T j b ∧ size b < size (.bin k l r) ∧
      ∀ p ∈ ps, T.lv p.1 = some (j+1) ∧ WP T j p.2 ∧ size p.2 < size (.bin k l r) := by
  induction l generalizing k r with
  | atom n => exact spine_stop T hk (WP.atom _ _) hr
  | paren e _ => exact spine_stop T hk (WP.paren _ _ (WP_paren_inv hl)) hr
  | bin k' l' r' ihl _ =>
    obtain ⟨j', hk', hle, hl', hr'⟩ := WP_bin_inv hl
    by_cases hj : j' = j + 1
    · -- the left operand continues the spine: its pairs, then `(k, r)`
      subst hj
      obtain ⟨b, ps, h1, h2, h3, h4, h5, h6⟩ := ihl hk' hl' hr'
      have hsz : size (.bin k' l' r') < size (.bin k (.bin k' l' r') r) ∧ size r < size (.bin k (.bin k' l' r') r) := by
        simp only [size]; omega
      refine ⟨b, ps ++ [(k, r)], ?_, ?_, ?_, h4, Nat.lt_trans h5 hsz.1, fun p hp => ?_⟩
      · rw [render, h1, flat_append]; simp [flat]
      · rw [cost, h2, costs_append]; simp [costs]; omega
      · rw [← h3]; simp [rebuild]
      · rcases List.mem_append.mp hp with hp | hp
        · exact ⟨(h6 p hp).1, (h6 p hp).2.1, Nat.lt_trans (h6 p hp).2.2 hsz.1⟩
        · obtain rfl := List.mem_singleton.mp hp
          exact ⟨hk, hr, hsz.2⟩
    · exact spine_stop T hk (WP.bin _ k' j' l' r' hk' (by omega) hl' hr') hr

theorem flat_below (T : Tbl) (j : Nat) (ps : List (Nat × E)) (rest : List Tok)
    (hps : ∀ p ∈ ps, T.lv p.1 = some j) (hr : Below T j rest) : Below T j (flat ps ++ rest) := by
  cases ps with
  | nil => simpa [flat] using hr
  | cons p ps =>
    obtain ⟨k, r⟩ := p
    simp only [flat, List.cons_append, Below]
    intro i hi
    have := hps (k, r) (by simp)
    simp only at this
    rw [this] at hi; have := Option.some.inj hi; omega

theorem loop_pairs (T : Tbl) (j : Nat) (P : E → Prop)
    (IH : ∀ r, P r → ∀ fuel rest, cost r ≤ fuel → Below T (j+1) rest →
        parseLevel T fuel j (render r ++ rest) = some (r, rest)) :
    ∀ (ps : List (Nat × E)) (acc : E) (fuel : Nat) (rest : List Tok),
      (∀ p ∈ ps, T.lv p.1 = some (j+1) ∧ P p.2) → costs ps ≤ fuel → Below T (j+2) rest →
      loopLevel T fuel (j+1) acc (flat ps ++ rest) = some (rebuild acc ps, rest)
  | [], acc, fuel, rest, _, _, hb => loopLevel_below T fuel (j+1) acc rest hb
  | (k, r) :: ps, acc, 0, rest, _, hc, _ => absurd hc (by simp only [costs]; omega)
  | (k, r) :: ps, acc, f+1, rest, hps, hc, hb => by
    obtain ⟨hk, hPr⟩ := hps (k, r) List.mem_cons_self
    have hps' : ∀ p ∈ ps, T.lv p.1 = some (j+1) ∧ P p.2 := fun p hp => hps p (List.mem_cons_of_mem _ hp)
    simp only [costs] at hc
    have hr := IH r hPr f (flat ps ++ rest) (by omega)
      (flat_below T (j+1) ps rest (fun p hp => (hps' p hp).1) (Below_mono T (Nat.le_succ _) hb))
    unfold loopLevel
    simp only [flat, List.cons_append, List.append_assoc, hk, if_true, hr]
    exact loop_pairs T j P IH ps (E.bin k acc r) f rest hps' (by omega) hb

theorem parseLevel_render (T : Tbl) : ∀ (n : Nat) (e : E), size e ≤ n → ∀ (d fuel : Nat) (rest : List Tok),
    WP T d e → cost e ≤ fuel → Below T (d+1) rest →
    parseLevel T fuel d (render e ++ rest) = some (e, rest) := by
  intro n
  induction n with
  | zero => intro e h; cases e <;> simp [size] at h
  | succ n ih =>
    intro e hs d fuel rest hwp hc hb
    cases e with
    | atom m =>
      apply parseLevel_of_term T fuel d _ rest _ _ hb
      unfold parseTerm; simp [render]
    | paren e' =>
      cases fuel with
      | zero => exact absurd hc (Nat.not_succ_le_zero _)
      | succ f =>
        have hin := ih e' (Nat.le_of_succ_le_succ hs) T.L f (Tok.rp :: rest)
          (WP_paren_inv hwp) (Nat.le_of_succ_le_succ hc) (by simp [Below])
        apply parseLevel_of_term T (f+1) d _ rest _ _ hb
        unfold parseTerm
        simp only [render, List.cons_append, List.append_assoc, List.nil_append, hin]
    | bin k l r =>
      obtain ⟨j, hk, hle, hl, hr⟩ := WP_bin_inv hwp
      obtain ⟨m, rfl⟩ := Nat.exists_eq_add_of_le hle
      cases j with
      | zero => exact absurd (T.ok k 0 hk).1 (Nat.not_succ_le_zero 0)
      | succ j' =>
        obtain ⟨b, ps, hrender, hcost, hreb, hb1, hb2, hps⟩ := spine_split T hk hl hr
        have hbj : Below T (j'+2) rest := Below_mono T (by omega) hb
        -- the base at depth j'
        have hbase := ih b (Nat.le_of_lt_succ (Nat.lt_of_lt_of_le hb2 hs)) j' fuel (flat ps ++ rest) hb1
          (by omega) (flat_below T (j'+1) ps rest (fun p hp => (hps p hp).1) (Below_mono T (Nat.le_succ _) hbj))
        -- then the loop at depth j'+1 eats all the pairs
        have hloop := loop_pairs T j' (fun r => WP T j' r ∧ size r ≤ n)
          (fun r ⟨h1, h2⟩ fuel' rest' hc' hb' => ih r h2 j' fuel' rest' h1 hc' hb') ps b fuel rest
          (fun p hp => ⟨(hps p hp).1, (hps p hp).2.1, Nat.le_of_lt_succ (Nat.lt_of_lt_of_le (hps p hp).2.2 hs)⟩)
          (by omega) hbj
        -- and the loops at depths j'+2 … do nothing
        rw [hrender, List.append_assoc, parseLevel_unroll, parseLevel.eq_def]
        simp only [hbase, hloop, hreb]
        exact loops_below T fuel _ _ _ _ (by rwa [Nat.add_right_comm] at hb)

theorem cost_le_length (e : E) : cost e ≤ (render e).length := by
  induction e with
  | atom n => simp [cost, render]
  | paren e ih => simp [cost, render]; omega
  | bin k l r ihl ihr => simp [cost, render]; omega

theorem parse_render (T : Tbl) (e : E) (h : WP T T.L e) : parse T (render e) = some e := by
  have := parseLevel_render T (size e) e (Nat.le_refl _) T.L (render e).length [] h (cost_le_length e) (by simp [Below])
  simp only [List.append_nil] at this
  simp [parse, this]

end HclModel.OpParser
