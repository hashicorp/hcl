import Proofs.TaintAccess
import Proofs.ValueOperators
/-!
C19: the operators and the conditional: results expose no taint when the operands do not (`tw false`), and the
only diagnostics they add carry no fragments (`NoNew`).
-/
namespace HclModel.Proofs
open Val

theorem callUn_tw {op : UnOp} {a v : Val} (h : tw false a = true) (hv : callUn op a = .ok v) :
    tw false v = true := by
  rcases (callUn_ok hv).2.2 with ⟨x, ea, ev⟩ | ⟨x, ea, ev⟩ | ⟨ev, -⟩
  · rw [ev]; rw [ea] at h; simpa [tw] using h
  · rw [ev]; rw [ea] at h; simpa [tw] using h
  · rw [ev]; simp [tw, Fl.none]

theorem evalUn_tw (op : UnOp) (o : Out) (h : tw false o.1 = true) : tw false (evalUn op o).1 = true := by
  obtain ⟨g, ds⟩ := o
  unfold evalUn
  dsimp only
  split
  · simp [tw, Fl.none]
  · split
    · simp [tw, Fl.none]
    · split
      · exact callUn_tw (tryConvert_tw h ‹_›) ‹_›
      · simp [tw, Fl.none]
      · exact tw_dynVal _

theorem evalUn_NoNew (op : UnOp) (o : Out) : NoNew (evalUn op o).2 o.2 := by
  obtain ⟨g, ds⟩ := o
  unfold evalUn
  dsimp only
  split
  · exact (NoNew.refl ds).snoc (frags_convErr ‹_› _)
  · split
    · exact NoNew.refl ds
    · split
      · exact NoNew.refl ds
      · exact (NoNew.refl ds).snoc rfl
      · exact (NoNew.refl ds).snoc rfl

theorem callBin_tw {op : BinOp} {a b v : Val} {i j : Bool} (ha : tw i a = true) (hb : tw j b = true)
    (h : callBin op a b = .ok v) : tw (i || j) v = true := by
  obtain ⟨hl, -, hf⟩ := callBin_leaf h
  rw [tw_eq, twKids_leaf hl, Bool.and_true]
  -- a guarded flag of the result comes from an operand, which is covered from above (`i`, `j`) or marked
  have cover : ∀ {ga gb ma mb : Prop}, (ga → i = true ∨ ma) → (gb → j = true ∨ mb) → ga ∨ gb →
      (i = true ∨ j = true) ∨ ma ∨ mb := fun fa fb hg =>
    hg.elim (fun g => (fa g).elim (.inl ∘ .inl) (.inr ∘ .inl)) fun g => (fb g).elim (.inl ∘ .inr) (.inr ∘ .inr)
  cases hg : v.fl.g
  · rfl
  · simp only [Bool.not_true, Bool.false_or, Bool.or_eq_true]
    rcases hf with hf | hf <;> rw [hf] at hg ⊢ <;> simp only [join_g, join_m, Bool.or_eq_true] at hg ⊢
    · exact cover (flagsDeep_tw a i ha) (flagsDeep_tw b j hb) hg
    · exact cover (tw_top ha) (tw_top hb) hg

theorem shortCircuit_val {op : BinOp} {l r v : Val} {ld rd ds : List Diag}
    (h : shortCircuit op l r ld rd = some (v, ds)) : tw false v = true ∧ (ds = ld ∨ ds = rd) := by
  obtain ⟨-, hd, hw⟩ := shortCircuit_some h
  refine ⟨?_, hd⟩
  rcases hw with ⟨rfl, -⟩ | ⟨rfl, -⟩ <;> simp [tw, Fl.none]

theorem evalBin_tw (keep : Bool) (op : BinOp) (lo ro : Out) (hl : tw false lo.1 = true) (hr : tw false ro.1 = true) :
    tw false (evalBin keep op lo ro).1 = true := by
  obtain ⟨gl, ld⟩ := lo
  obtain ⟨gr, rd⟩ := ro
  unfold evalBin
  dsimp only
  split
  · rename_i l r hcl hcr
    have hl' := tryConvert_tw hl hcl
    have hr' := tryConvert_tw hr hcr
    have hlf := tw_flOK hl'
    have hrf := tw_flOK hr'
    dsimp only [unmark]
    split
    · rename_i v ds hs
      exact tw_withFl (shortCircuit_val hs).1 (flOK_join hlf hrf)
    · split
      · exact tw_withFl (tw_unk_of flOK_none _) (flOK_join hlf hrf)
      · split
        · rename_i v hv
          have := callBin_tw (tw_unmark hl') (tw_unmark hr') hv
          exact tw_withFl_cover this (by intro h; simpa using h) (flOK_join hlf hrf)
        · simp [tw, Fl.none]
        · exact tw_dynVal _
  · simp [tw, Fl.none]

theorem evalBin_NoNew (keep : Bool) (op : BinOp) (lo ro : Out) : NoNew (evalBin keep op lo ro).2 (lo.2 ++ ro.2) := by
  obtain ⟨gl, ld⟩ := lo
  obtain ⟨gr, rd⟩ := ro
  unfold evalBin
  dsimp only
  split
  · dsimp only [unmark]
    split
    · rename_i v ds hs
      dsimp only
      split
      · exact NoNew.refl _
      · apply NoNew.append
        · rcases (shortCircuit_val hs).2 with rfl | rfl
          · exact (NoNew.refl _).app_right _
          · exact (NoNew.refl _).app_left _
        · exact NoNew.of_sub (unsupOnly_sub _ _)
    · split
      · exact NoNew.refl _
      · split
        · exact NoNew.refl _
        · exact (NoNew.refl _).snoc rfl
        · exact (NoNew.refl _).snoc rfl
  · dsimp only
    refine ((NoNew.append ?_ ?_).append ((NoNew.refl ld).app_right rd)).append ((NoNew.refl rd).app_left ld) <;> split
    · exact NoNew.free (frags_single_free (frags_convErr ‹_› _))
    · exact NoNew.nil _
    · exact NoNew.free (frags_single_free (frags_convErr ‹_› _))
    · exact NoNew.nil _

theorem twL_replicate_unk (i : Bool) (n : Nat) (t : Ty) : twL i (List.replicate n (Val.unk Fl.none t)) = true := by
  induction n with
  | zero => simp [twL]
  | succ n ih => simp only [List.replicate_succ, twL, tw, none_g, Bool.not_false, Bool.true_or, ih, Bool.and_self]

theorem condUnknown_tw (rty : Ty) (ms : Fl) (tv fv : Val) (cd : List Diag) (hms : flOK ms) :
    tw false (condUnknown rty ms tv fv cd).1 = true := by
  rw [condUnknown_eq]
  cases hw : condUnknownVal rty tv fv with
  | none => exact tw_dynVal _
  | some w =>
    refine tw_withFl ?_ hms
    rcases condUnknownVal_some hw with ⟨rfl, -⟩ | ⟨rfl, -⟩ | ⟨_, _, _, -, rfl⟩ | ⟨_, _, _, -, rfl⟩
    · simp [tw]
    · exact tw_unk_of flOK_none _
    · simp [tw, twL_replicate_unk]
    · simp [tw, twF]

theorem frags_unsupportedOut (w : String) : ∀ d ∈ (unsupportedOut w).2, d.frags = [] := by
  intro d hd; simp only [unsupportedOut, List.mem_singleton] at hd; subst hd; rfl
theorem frags_errOut (w : String) : ∀ d ∈ (errOut w).2, d.frags = [] := by
  intro d hd; simp only [errOut, List.mem_singleton] at hd; subst hd; rfl

theorem condUnknown_NoNew (rty : Ty) (ms : Fl) (tv fv : Val) (cd : List Diag) :
    NoNew (condUnknown rty ms tv fv cd).2 cd := by
  rw [condUnknown_eq]
  cases condUnknownVal rty tv fv with
  | none => exact NoNew.free (frags_unsupportedOut _)
  | some w => exact NoNew.refl _

theorem condPick_tw (rty : Ty) (ms : Fl) (cd : List Diag) (v : Val) (ds : List Diag) (site : String) {i : Bool}
    (hv : tw i v = true) (hi : i = true → ms.m = true) (hms : flOK ms) :
    tw false (condPick rty ms cd v ds site).1 = true := by
  unfold condPick
  split
  · exact tw_withFl_cover (tryConvert_tw hv ‹_›) hi hms
  · exact tw_withFl (tw_unk_of flOK_none _) hms

theorem condPick_NoNew (rty : Ty) (ms : Fl) (cd : List Diag) (v : Val) (ds : List Diag) (site : String) :
    NoNew (condPick rty ms cd v ds site).2 (cd ++ ds) := by
  unfold condPick
  split
  · exact NoNew.refl _
  · exact (NoNew.refl _).snoc (frags_convErr ‹_› _)

theorem condKnown_tw (rty : Ty) (ms : Fl) (cv tv fv : Val) (cd td fd : List Diag) {i j : Bool}
    (ht : tw i tv = true) (hf : tw j fv = true) (hi : i = true → ms.m = true) (hj : j = true → ms.m = true)
    (hms : flOK ms) : tw false (condKnown rty ms cv tv fv cd td fd).1 = true := by
  unfold condKnown
  split
  · exact tw_unk_of flOK_none _
  · split
    · exact condPick_tw _ _ _ _ _ _ ht hi hms
    · exact condPick_tw _ _ _ _ _ _ hf hj hms
    · exact tw_withFl (tw_unk_of flOK_none _) hms

theorem condKnown_NoNew (rty : Ty) (ms : Fl) (cv tv fv : Val) (cd td fd : List Diag) :
    NoNew (condKnown rty ms cv tv fv cd td fd).2 (cd ++ td ++ fd) := by
  unfold condKnown
  split
  · exact ((NoNew.refl cd).app_right td |>.snoc (frags_convErr ‹_› _)).app_right fd
  · split
    · exact (condPick_NoNew _ _ _ _ _ _).app_right fd
    · exact (condPick_NoNew _ _ _ _ _ _).mono fun d hd =>
        (List.mem_append.mp hd).elim (fun h => List.mem_append_left _ (List.mem_append_left _ h))
          (List.mem_append_right _)
    · exact ((NoNew.refl cd).app_right td).app_right fd

-- `false || _.m` is the index `tw_unmark` leaves for an unmarked branch of the conditional
theorem join3_m_mid {a b c : Fl} : (false || b.m) = true → ((a.join b).join c).m = true := by
  intro h; simp at h; simp [h]
theorem join3_m_right {a b c : Fl} : (false || c.m) = true → ((a.join b).join c).m = true := by
  intro h; simp at h; simp [h]

theorem evalCondCore_tw (co to fo : Out) (hc : tw false co.1 = true) (ht : tw false to.1 = true)
    (hf : tw false fo.1 = true) : tw false (evalCondCore co to fo).1 = true := by
  obtain ⟨cv, cd⟩ := co
  obtain ⟨tv, td⟩ := to
  obtain ⟨fv, fd⟩ := fo
  rw [evalCondCore_eq]
  have hms : flOK ((cv.fl.join tv.fl).join fv.fl) := flOK_join (flOK_join (tw_flOK hc) (tw_flOK ht)) (tw_flOK hf)
  split
  · exact tw_dynVal _
  · exact tw_dynVal _
  · exact tw_dynVal _
  · split
    · exact tw_unk_of flOK_none _
    · dsimp only
      split
      · exact condUnknown_tw _ _ _ _ _ hms
      · exact condKnown_tw _ _ _ _ _ _ _ _ (tw_unmark ht) (tw_unmark hf) join3_m_mid join3_m_right hms

theorem evalCondCore_NoNew (co to fo : Out) : NoNew (evalCondCore co to fo).2 (co.2 ++ to.2 ++ fo.2) := by
  obtain ⟨cv, cd⟩ := co
  obtain ⟨tv, td⟩ := to
  obtain ⟨fv, fd⟩ := fo
  rw [evalCondCore_eq]
  split
  · exact NoNew.free (frags_unsupportedOut _)
  · exact NoNew.free (frags_errOut _)
  · exact NoNew.free (frags_errOut _)
  · split
    · exact (((NoNew.refl cd).app_right td).app_right fd).snoc rfl
    · dsimp only
      split
      · exact ((condUnknown_NoNew _ _ _ _ _).app_right td).app_right fd
      · exact condKnown_NoNew _ _ _ _ _ _ _ _

theorem evalCond_fst (keep : Bool) (co to fo : Out) : (evalCond keep co to fo).1 = (evalCondCore co to fo).1 := by
  unfold evalCond
  cases evalCondCore co to fo
  dsimp only
  split <;> rfl

theorem evalCond_snd (keep : Bool) (co to fo : Out) : (evalCond keep co to fo).2 =
    if keep then (evalCondCore co to fo).2 ++ to.2 ++ fo.2
    else (evalCondCore co to fo).2 ++ unsupOnly (co.2 ++ to.2 ++ fo.2) (evalCondCore co to fo).2 := by
  unfold evalCond
  cases evalCondCore co to fo
  dsimp only
  split <;> rfl

theorem evalCond_tw (keep : Bool) (co to fo : Out) (hc : tw false co.1 = true) (ht : tw false to.1 = true)
    (hf : tw false fo.1 = true) : tw false (evalCond keep co to fo).1 = true := by
  rw [evalCond_fst]; exact evalCondCore_tw co to fo hc ht hf

theorem evalCond_NoNew (keep : Bool) (co to fo : Out) : NoNew (evalCond keep co to fo).2 (co.2 ++ to.2 ++ fo.2) := by
  rw [evalCond_snd]
  split
  · apply NoNew.append
    · apply NoNew.append
      · exact evalCondCore_NoNew co to fo
      · exact ((NoNew.refl _).app_left _).app_right _
    · exact (NoNew.refl _).app_left _
  · apply NoNew.append
    · exact evalCondCore_NoNew co to fo
    · exact NoNew.of_sub (unsupOnly_sub _ _)

end HclModel.Proofs
