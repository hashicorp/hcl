import HclModel.Write.GenValue
import Proofs.StringLit
/-!
`TokensForValue` round trip (C11): the tokens written for a value, scanned again (`genR`), are parsed by the
expression parser, in either newline mode and with fuel `need`, to the constant expression `toLE` (`parseExpr_gen`),
whose value is the original.
-/
namespace HclModel.GenValue.Proofs
open HclModel.GenValue HclModel.StringLit

mutual
/-- the generator after re-scanning: `relex ∘ gen` (`relex_gen`) -/
def genR (c : Cfg) : GV → List Tok
  | .null => [.ident kwNull]
  | .bool b => [.ident (if b then kwTrue else kwFalse)]
  | .num true m => [.minus, .num false m]
  | .num false m => [.num false m]
  | .str s => strToks c s
  | .seq xs => .obrack :: (genSeqR c true xs ++ [.cbrack])
  | .obj kvs => .obrace :: ((match kvs with | [] => [] | _ :: _ => [.newline]) ++ (genObjR c kvs ++ [.cbrace]))
def genSeqR (c : Cfg) (first : Bool) : List GV → List Tok
  | [] => []
  | x :: xs => (if first then [] else [.comma]) ++ (genR c x ++ genSeqR c false xs)
def genObjR (c : Cfg) : List (List Char × GV) → List Tok
  | [] => []
  | (k, v) :: rest => keyToks c k ++ (.equal :: (genR c v ++ (.newline :: genObjR c rest)))
end

theorem relex_append (a b : List Tok) : relex (a ++ b) = relex a ++ relex b := by
  simp [relex, List.flatMap_append]

theorem relex_cons (t : Tok) (r : List Tok) : relex (t :: r) = relexTok t ++ relex r := by
  simp [relex, List.flatMap_cons]

theorem relex_nil : relex [] = [] := rfl

theorem relex_strToks (c : Cfg) (s : List Char) : relex (strToks c s) = strToks c s := by
  unfold strToks
  split <;> simp [relex, relexTok]

theorem relex_keyToks (c : Cfg) (k : List Char) : relex (keyToks c k) = keyToks c k := by
  unfold keyToks
  split
  · simp [relex, relexTok]
  · exact relex_strToks c k

mutual
theorem relex_gen (c : Cfg) : ∀ v : GV, relex (gen c v) = genR c v
  | .null | .bool _ | .num true _ | .num false _ => by simp [gen, genR, relex, relexTok]
  | .str s => by simp [gen, genR, relex_strToks]
  | .seq xs => by
    simp only [gen, genR, relex_cons, relex_append, relex_genSeq c true xs, relexTok, relex_nil]
    simp
  | .obj kvs => by
    simp only [gen, genR, relex_cons, relex_append, relex_genObj c kvs, relexTok, relex_nil]
    cases kvs <;> simp [relex, relexTok]
theorem relex_genSeq (c : Cfg) (first : Bool) : ∀ xs : List GV, relex (genSeq c first xs) = genSeqR c first xs
  | [] => by simp [genSeq, genSeqR, relex]
  | x :: xs => by
    simp only [genSeq, genSeqR, relex_append, relex_gen c x, relex_genSeq c false xs]
    cases first <;> simp [relex, relexTok]
theorem relex_genObj (c : Cfg) : ∀ kvs : List (List Char × GV), relex (genObj c kvs) = genObjR c kvs
  | [] => by simp [genObj, genObjR, relex]
  | (k, v) :: rest => by
    simp only [genObj, genObjR, relex_append, relex_cons, relex_keyToks, relex_gen c v, relex_genObj c rest, relexTok]
    simp
end

/-- what the parser is expected to build: of an identifier, of a key, of a value (`toLE`) -/
def identLE (s : List Char) : LE :=
  if s = kwTrue then .bool true else if s = kwFalse then .bool false else if s = kwNull then .null else .var s

def keyLE (c : Cfg) (k : List Char) : LE :=
  if c.validIdent k && k != kwFor then identLE k else .str k

mutual
def toLE (c : Cfg) : GV → LE
  | .null => .null
  | .bool b => .bool b
  | .num true m => .neg (.num m)
  | .num false m => .num m
  | .str s => .str s
  | .seq xs => .tuple (toLEs c xs)
  | .obj kvs => .object (toLEkvs c kvs)
def toLEs (c : Cfg) : List GV → List LE
  | [] => []
  | x :: xs => toLE c x :: toLEs c xs
def toLEkvs (c : Cfg) : List (List Char × GV) → List (LE × LE)
  | [] => []
  | (k, v) :: rest => (keyLE c k, toLE c v) :: toLEkvs c rest
end

mutual
/-- fuel that suffices to parse what is written for a value -/
def need : GV → Nat
  | .null => 3
  | .bool _ => 3
  | .num _ _ => 5
  | .str _ => 3
  | .seq xs => 4 + needSeq xs
  | .obj kvs => 5 + needObj kvs
def needSeq : List GV → Nat
  | [] => 0
  | x :: xs => 1 + need x + needSeq xs
def needObj : List (List Char × GV) → Nat
  | [] => 0
  | (_, v) :: rest => 4 + need v + needObj rest
end

theorem need_pos (v : GV) : 3 ≤ need v := by
  cases v <;> simp [need] <;> omega

/-- the fuel of a loop at an item: `k` units for the step, what the item needs, what the rest needs -/
theorem fuel_split {k a b f : Nat} (h : k + a + b + 1 ≤ f) : ∃ g, f = g + k ∧ a ≤ g ∧ b + 1 ≤ g := by
  obtain ⟨j, rfl⟩ := Nat.exists_eq_add_of_le h
  exact ⟨a + b + 1 + j, by omega, by omega, by omega⟩

/-- the tokens a written value or an object key can start with -/
def startTok : Tok → Bool
  | .ident s => s != kwFor
  | .num false _ | .minus | .oquote | .obrack | .obrace => true
  | _ => false

/-- The list begins with such a token. Then the peeker skips nothing, `[` / `{` is not followed by `for`, and an item
    loop does not see its closing token. -/
def starts : List Tok → Bool
  | t :: _ => startTok t
  | [] => false

theorem starts_append : ∀ {a : List Tok} (b : List Tok), starts a = true → starts (a ++ b) = true
  | _ :: _, _, h => h

theorem strToks_starts (c : Cfg) (s : List Char) : starts (strToks c s) = true := by
  unfold strToks; split <;> rfl

theorem genR_starts (c : Cfg) : ∀ v : GV, starts (genR c v) = true
  | .str s => strToks_starts c s
  | .bool b => by cases b <;> rfl
  | .num n m => by cases n <;> rfl
  | .null | .seq _ | .obj _ => rfl

theorem keyToks_starts (c : Cfg) (k : List Char) : starts (keyToks c k) = true := by
  unfold keyToks; split
  · next h => exact (Bool.and_eq_true _ _ ▸ h).2
  · exact strToks_starts c k

theorem peekSkip_of_ne (nl : Bool) (t : Tok) (r : List Tok) (h : t ≠ .newline) :
    peekSkip nl (t :: r) = t :: r := by
  cases t <;> simp_all [peekSkip]

theorem peekSkip_starts (nl : Bool) : ∀ {ts : List Tok}, starts ts = true → peekSkip nl ts = ts
  | t :: r, h => peekSkip_of_ne nl t r (by rintro rfl; cases h)

theorem startsFor_starts : ∀ {ts : List Tok}, starts ts = true → startsFor ts = false
  | t :: r, h => by
    replace h : startTok t = true := h
    unfold startsFor
    rw [peekSkip_of_ne false t r (by rintro rfl; cases h)]
    cases t <;> simp_all [startTok]

theorem startsFor_newline (ts : List Tok) : startsFor (.newline :: ts) = startsFor ts := rfl

/-- the item loops at an item: the closing bracket / brace is not next -/
theorem parseItems_start {ts : List Tok} (h : starts ts = true) {f : Nat} {r1 r' : List Tok} {sep : Tok}
    {e : LE} {es : List LE} (hE : parseExpr f false ts = some (e, sep :: r1))
    (hs : sep = .cbrack ∧ es = [] ∧ r' = r1 ∨ sep = .comma ∧ parseItems f r1 = some (es, r')) :
    parseItems (f+1) ts = some (e :: es, r') := by
  unfold parseItems
  rw [peekSkip_starts false h, hE]
  split
  · cases h
  · rcases hs with ⟨rfl, rfl, rfl⟩ | ⟨rfl, hI⟩ <;> simp [peekSkip, *]

theorem parseAttrs_start {ts : List Tok} (h : starts ts = true) {f : Nat} {r1 r2 r3 : List Tok} {k v : LE}
    {kvs : List (LE × LE)} (hK : parseExpr f true ts = some (k, .equal :: r1))
    (hV : parseExpr f true r1 = some (v, .newline :: r2)) (hA : parseAttrs f r2 = some (kvs, r3)) :
    parseAttrs (f+1) ts = some ((k, v) :: kvs, r3) := by
  unfold parseAttrs
  split
  · cases h
  · cases h
  · simp [hK, hV, hA]

theorem identLE_keyName (k : List Char) : keyName (identLE k) = some k := by
  unfold identLE
  by_cases h1 : k = kwTrue; · subst h1; rfl
  by_cases h2 : k = kwFalse; · subst h2; rfl
  by_cases h3 : k = kwNull; · subst h3; rfl
  rw [if_neg h1, if_neg h2, if_neg h3]; rfl

theorem keyLE_keyName (c : Cfg) (k : List Char) : keyName (keyLE c k) = some k := by
  unfold keyLE; split
  · exact identLE_keyName k
  · rfl

theorem parseTerm_ident (f : Nat) (nl : Bool) (s : List Char) (rest : List Tok) :
    parseTerm (f+1) nl (.ident s :: rest) = some (identLE s, rest) := rfl

theorem parseTerm_str (c : Cfg) (hb : c.isPrint '{' = true) (s : List Char) (f : Nat) (nl : Bool) (rest : List Tok) :
    parseTerm (f+1) nl (strToks c s ++ rest) = some (.str s, rest) := by
  have hrt := HclModel.StringLit.Proofs.parseQuoted_escape c.isPrint hb s
  unfold strToks
  split
  · next he =>
    -- nothing between the quotes: `s` is what `[]` reads back as
    rw [he] at hrt
    cases hrt
    rfl
  · simp only [List.cons_append, List.nil_append, parseTerm, peekSkip]
    rw [hrt]

theorem parseTerm_neg (f : Nat) (nl : Bool) (m : Nat) (rest : List Tok) (h : contIdx nl rest = false) :
    parseTerm (f+3) nl (.minus :: .num false m :: rest) = some (.neg (.num m), rest) := by
  simp [parseTerm, parseWT, peekSkip, h]

theorem parseTerm_tuple {f : Nat} {nl : Bool} {r r' : List Tok} {es : List LE} (hs : startsFor r = false)
    (hI : parseItems f r = some (es, r')) : parseTerm (f+1) nl (.obrack :: r) = some (.tuple es, r') := by
  simp [parseTerm, peekSkip, hs, hI]

theorem parseTerm_object {f : Nat} {nl : Bool} {r r' : List Tok} {kvs : List (LE × LE)} (hs : startsFor r = false)
    (hA : parseAttrs f r = some (kvs, r')) : parseTerm (f+1) nl (.obrace :: r) = some (.object kvs, r') := by
  simp [parseTerm, peekSkip, hs, hA]

theorem parseExpr_of_term (f : Nat) (nl : Bool) (ts rest : List Tok) (e : LE)
    (h : parseTerm f nl ts = some (e, rest)) (hc : contIdx nl rest = false ∧ contBin nl rest = false) :
    parseExpr (f+2) nl ts = some (e, rest) := by
  simp [parseExpr, parseWT, h, hc.1, hc.2]

theorem cont_of_head (nl : Bool) (t : Tok) (r : List Tok)
    (h : t ≠ .obrack ∧ t ≠ .minus ∧ (nl = true ∨ t ≠ .newline)) :
    contIdx nl (t :: r) = false ∧ contBin nl (t :: r) = false := by
  cases t <;> simp_all [contIdx, contBin, peekSkip]

theorem parseExpr_key (c : Cfg) (hb : c.isPrint '{' = true) (k : List Char) (f : Nat) (rest : List Tok) :
    parseExpr (f+3) true (keyToks c k ++ .equal :: rest) = some (keyLE c k, .equal :: rest) := by
  apply parseExpr_of_term _ _ _ _ _ _ (cont_of_head true .equal rest (by simp))
  unfold keyToks keyLE
  split
  · exact parseTerm_ident f true k _
  · exact parseTerm_str c hb k f true _

mutual
theorem parseExpr_gen (c : Cfg) (hb : c.isPrint '{' = true) :
    ∀ (v : GV) (f : Nat) (nl : Bool) (rest : List Tok), need v ≤ f →
      contIdx nl rest = false ∧ contBin nl rest = false →
      parseExpr f nl (genR c v ++ rest) = some (toLE c v, rest)
  | v, f, nl, rest, hf, hc => by
    obtain ⟨f, rfl⟩ : ∃ g, f = g + 3 := ⟨f - 3, by have := need_pos v; omega⟩
    refine parseExpr_of_term (f+1) nl _ _ _ ?_ hc
    match v, hf with
    | .null, _ => exact parseTerm_ident f nl kwNull rest
    | .bool false, _ => exact parseTerm_ident f nl kwFalse rest
    | .bool true, _ => exact parseTerm_ident f nl kwTrue rest
    | .num false m, _ => rfl
    | .num true m, hf =>
      obtain ⟨f, rfl⟩ : ∃ g, f = g + 2 := ⟨f - 2, by simp only [need] at hf; omega⟩
      exact parseTerm_neg f nl m rest hc.1
    | .str s, _ => exact parseTerm_str c hb s f nl rest
    | .seq xs, hf =>
      have hI := parseItems_gen c hb xs f rest (by simp only [need] at hf; omega)
      have hsf : startsFor (genSeqR c true xs ++ .cbrack :: rest) = false := by
        cases xs with
        | nil => rfl
        | cons x xs' =>
          simp only [genSeqR, if_true, List.nil_append, List.append_assoc]
          exact startsFor_starts (starts_append _ (genR_starts c x))
      simp only [genR, List.cons_append, List.append_assoc, List.nil_append]
      exact parseTerm_tuple hsf hI
    | .obj [], hf =>
      obtain ⟨f, rfl⟩ : ∃ g, f = g + 1 := ⟨f - 1, by simp only [need] at hf; omega⟩
      exact parseTerm_object rfl rfl
    | .obj ((k, v) :: kvs), hf =>
      obtain ⟨f, rfl, hfA⟩ : ∃ g, f = g + 1 ∧ needObj ((k, v) :: kvs) + 1 ≤ g :=
        ⟨f - 1, by simp only [need] at hf; omega⟩
      have hA := parseAttrs_gen c hb ((k, v) :: kvs) f rest hfA
      have hsf : startsFor (.newline :: (genObjR c ((k, v) :: kvs) ++ .cbrace :: rest)) = false := by
        simp only [genObjR, List.append_assoc, startsFor_newline]
        exact startsFor_starts (starts_append _ (keyToks_starts c k))
      simp only [genR, List.cons_append, List.append_assoc, List.nil_append]
      exact parseTerm_object hsf hA
theorem parseItems_gen (c : Cfg) (hb : c.isPrint '{' = true) :
    ∀ (xs : List GV) (f : Nat) (rest : List Tok), needSeq xs + 1 ≤ f →
      parseItems f (genSeqR c true xs ++ .cbrack :: rest) = some (toLEs c xs, rest)
  | [], f, rest, hf => by
    obtain ⟨f, rfl⟩ : ∃ g, f = g + 1 := ⟨f - 1, by omega⟩
    simp [genSeqR, toLEs, parseItems, peekSkip]
  | x :: xs, f, rest, hf => by
    obtain ⟨f, rfl, hfx, hfxs⟩ := fuel_split (k := 1) hf
    have hE : ∀ sep tl, sep = .cbrack ∨ sep = .comma →
        parseExpr f false (genR c x ++ sep :: tl) = some (toLE c x, sep :: tl) := fun sep tl hs =>
      parseExpr_gen c hb x f false _ hfx
        (cont_of_head false sep tl (by rcases hs with rfl | rfl <;> simp))
    have hs := fun tl => starts_append tl (genR_starts c x)
    simp only [genSeqR, toLEs, if_true, List.nil_append, List.append_assoc]
    cases xs with
    | nil => exact parseItems_start (hs _) (hE _ _ (.inl rfl)) (.inl ⟨rfl, rfl, rfl⟩)
    | cons y ys =>
      have hI := parseItems_gen c hb (y :: ys) f rest hfxs
      exact parseItems_start (hs _) (hE _ _ (.inr rfl)) (.inr ⟨rfl, hI⟩)
theorem parseAttrs_gen (c : Cfg) (hb : c.isPrint '{' = true) :
    ∀ (kvs : List (List Char × GV)) (f : Nat) (rest : List Tok), needObj kvs + 1 ≤ f →
      parseAttrs f (genObjR c kvs ++ .cbrace :: rest) = some (toLEkvs c kvs, rest)
  | [], f, rest, hf => by
    obtain ⟨f, rfl⟩ : ∃ g, f = g + 1 := ⟨f - 1, by omega⟩
    simp [genObjR, toLEkvs, parseAttrs]
  | (k, v) :: kvs, f, rest, hf => by
    obtain ⟨f, rfl, hfv, hfkvs⟩ := fuel_split (k := 4) hf
    have hK := parseExpr_key c hb k f (genR c v ++ .newline :: (genObjR c kvs ++ .cbrace :: rest))
    have hV := parseExpr_gen c hb v (f+3) true _ (Nat.le_add_right_of_le hfv)
      (cont_of_head true .newline (genObjR c kvs ++ .cbrace :: rest) (by simp))
    have hA := parseAttrs_gen c hb kvs (f+3) rest (Nat.le_add_right_of_le hfkvs)
    simp only [genObjR, toLEkvs, List.append_assoc, List.cons_append]
    exact parseAttrs_start (starts_append _ (keyToks_starts c k)) hK hV hA
end

mutual
theorem need_le (c : Cfg) : ∀ v : GV, need v + 1 ≤ 6 * (genR c v).length
  | .null | .bool _ | .num true _ | .num false _ => by simp [need, genR]
  | .str s => by
    simp only [need, genR, strToks]
    split <;> simp
  | .seq xs => by
    have := needSeq_le c true xs
    simp only [need, genR, List.length_cons, List.length_append, List.length_nil]; omega
  | .obj kvs => by
    have := needObj_le c kvs
    simp only [need, genR, List.length_cons, List.length_append, List.length_nil]; omega
theorem needSeq_le (c : Cfg) (first : Bool) : ∀ xs : List GV, needSeq xs ≤ 6 * (genSeqR c first xs).length
  | [] => Nat.zero_le _
  | x :: xs => by
    have h1 := need_le c x
    have h2 := needSeq_le c false xs
    simp only [needSeq, genSeqR, List.length_append]; omega
theorem needObj_le (c : Cfg) : ∀ kvs : List (List Char × GV), needObj kvs ≤ 6 * (genObjR c kvs).length
  | [] => Nat.zero_le _
  | (k, v) :: rest => by
    have h1 := need_le c v
    have h2 := needObj_le c rest
    simp only [needObj, genObjR, List.length_append, List.length_cons]; omega
end

mutual
theorem evalLE_toLE (c : Cfg) : ∀ v : GV, evalLE (toLE c v) = some (norm v)
  | .null | .bool _ | .num true _ | .num false _ | .str _ => by simp [toLE, evalLE, norm]
  | .seq xs => by simp [toLE, evalLE, norm, evalList_toLEs c xs]
  | .obj kvs => by simp [toLE, evalLE, norm, evalItems_toLEkvs c kvs]
theorem evalList_toLEs (c : Cfg) : ∀ xs : List GV, evalList (toLEs c xs) = some (normList xs)
  | [] => by simp [toLEs, evalList, normList]
  | x :: xs => by simp [toLEs, evalList, normList, evalLE_toLE c x, evalList_toLEs c xs]
theorem evalItems_toLEkvs (c : Cfg) : ∀ kvs : List (List Char × GV), evalItems (toLEkvs c kvs) = some (normKvs kvs)
  | [] => by simp [toLEkvs, evalItems, normKvs]
  | (k, v) :: rest => by
    simp [toLEkvs, evalItems, normKvs, keyLE_keyName, evalLE_toLE c v, evalItems_toLEkvs c rest]
end

theorem insertKV_fresh (acc : List (List Char × GV)) (k : List Char) (v : GV)
    (h : k ∉ acc.map (·.1)) : insertKV acc k v = acc ++ [(k, v)] := by
  induction acc with
  | nil => rfl
  | cons p acc ih =>
    obtain ⟨k', v'⟩ := p
    simp only [List.map_cons, List.mem_cons, not_or] at h
    have hne : ¬ k' = k := fun e => h.1 e.symm
    simp [insertKV, hne, ih h.2]

theorem foldl_insertKV_distinct (l acc : List (List Char × GV))
    (hd : distinct (l.map (·.1)) = true) (hdisj : ∀ k ∈ l.map (·.1), k ∉ acc.map (·.1)) :
    l.foldl (fun a p => insertKV a p.1 p.2) acc = acc ++ l := by
  induction l generalizing acc with
  | nil => simp
  | cons p l ih =>
    obtain ⟨k, v⟩ := p
    simp only [List.map_cons, distinct, Bool.and_eq_true, Bool.not_eq_true', List.contains_eq_mem,
      decide_eq_false_iff_not] at hd
    rw [List.foldl_cons, insertKV_fresh acc k v (hdisj k (by simp)), ih _ hd.2, List.append_assoc]
    · rfl
    · intro k' hk'
      have h2 : k' ≠ k := fun e => hd.1 (e ▸ hk')
      simpa [h2] using hdisj k' (by simp [hk'])

theorem normKvs_keys : ∀ kvs : List (List Char × GV), (normKvs kvs).map (·.1) = kvs.map (·.1)
  | [] => rfl
  | (k, v) :: rest => by simp [normKvs, normKvs_keys rest]

mutual
theorem norm_id : ∀ v : GV, keysDistinct v = true → norm v = v
  | .null, _ | .bool _, _ | .num _ _, _ | .str _, _ => rfl
  | .seq xs, h => by
    simp only [keysDistinct] at h
    simp [norm, normList_id xs h]
  | .obj kvs, h => by
    simp only [keysDistinct, Bool.and_eq_true] at h
    have hk := normKvs_id kvs h.2
    simp only [norm]
    rw [foldl_insertKV_distinct _ [] (by rw [normKvs_keys]; exact h.1) (by simp), hk]
    simp
theorem normList_id : ∀ xs : List GV, keysDistinctList xs = true → normList xs = xs
  | [], _ => rfl
  | x :: xs, h => by
    simp only [keysDistinctList, Bool.and_eq_true] at h
    simp [normList, norm_id x h.1, normList_id xs h.2]
theorem normKvs_id : ∀ kvs : List (List Char × GV), keysDistinctKvs kvs = true → normKvs kvs = kvs
  | [], _ => rfl
  | (k, v) :: rest, h => by
    simp only [keysDistinctKvs, Bool.and_eq_true] at h
    simp [normKvs, norm_id v h.1, normKvs_id rest h.2]
end

theorem cont_nil (nl : Bool) : contIdx nl [] = false ∧ contBin nl [] = false := by
  simp [contIdx, contBin, peekSkip]

theorem parseTop_gen (c : Cfg) (hb : c.isPrint '{' = true) (v : GV) :
    parseTop (relex (gen c v)) = some (toLE c v) := by
  have hn := need_le c v
  have hE := parseExpr_gen c hb v (fuelFor (genR c v)) false [] (by unfold fuelFor; omega) (cont_nil false)
  rw [List.append_nil] at hE
  simp [parseTop, relex_gen, hE, peekSkip]

theorem parseAttrValue_gen (c : Cfg) (hb : c.isPrint '{' = true) (v : GV) (after : List Tok) :
    parseAttrValue (relex (gen c v) ++ .newline :: after) = some (toLE c v) := by
  have hn := need_le c v
  have hE := parseExpr_gen c hb v (fuelFor (genR c v ++ .newline :: after)) true _
    (by simp [fuelFor]; omega) (cont_of_head true .newline after (by simp))
  simp [parseAttrValue, relex_gen, hE]

end HclModel.GenValue.Proofs
