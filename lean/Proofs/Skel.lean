import HclModel.Skel.IR
/-!
The checker `balanced` is sound for the big-step semantics `Exec` (C15): what `ae` computes for a compound
statement is stated once, as what its outcomes contain given the outcomes of the parts; `sound` then follows the
rules of `Exec` one by one.
-/
namespace HclModel.Skel

/-- how a `blk` turns the way its body ends into the way it ends itself -/
def blkKind : Kind → Kind
  | .brk 0 => .norm
  | .brk (n+1) => .brk n
  | .cont (n+1) => .cont n
  | k => k

/-- the same for a `loop`; `none`: the body's ending starts the next iteration -/
def loopKind : Kind → Option Kind
  | .norm | .cont 0 => none
  | .brk 0 => some .norm
  | .brk (n+1) => some (.brk n)
  | .cont (n+1) => some (.cont n)
  | .ret => some .ret

section
variable {a b body : Stmt} {outs : List Out}

theorem ae_choice (h : ae (.choice a b) = some outs) :
    ∃ x y, ae a = some x ∧ ae b = some y ∧ ∀ o, o ∈ x ∨ o ∈ y → o ∈ outs := by
  simp only [ae, Option.bind_eq_bind, Option.bind_eq_some_iff, Option.pure_def, Option.some.injEq] at h
  obtain ⟨x, hx, y, hy, rfl⟩ := h
  exact ⟨x, y, hx, hy, fun o ho => List.mem_eraseDups.2 (List.mem_append.2 ho)⟩

theorem ae_seq (h : ae (.seq a b) = some outs) :
    ∃ x y, ae a = some x ∧ ae b = some y ∧
      (∀ d k d', (.norm, d) ∈ x → (k, d') ∈ y → (k, d + d') ∈ outs) ∧
      ∀ k d, (k, d) ∈ x → k ≠ .norm → (k, d) ∈ outs := by
  simp only [ae, Option.bind_eq_bind, Option.bind_eq_some_iff, Option.pure_def, Option.some.injEq] at h
  obtain ⟨x, hx, y, hy, rfl⟩ := h
  refine ⟨x, y, hx, hy, fun d k d' hd hk => ?_, fun k d hm hk => ?_⟩
  · exact List.mem_eraseDups.2 (List.mem_flatMap.2 ⟨_, hd, List.mem_map.2 ⟨_, hk, rfl⟩⟩)
  · refine List.mem_eraseDups.2 (List.mem_flatMap.2 ⟨_, hm, ?_⟩)
    cases k with
    | norm => exact absurd rfl hk
    | _ => exact List.mem_singleton_self _

theorem ae_blk (h : ae (.blk body) = some outs) :
    ∃ x, ae body = some x ∧ ∀ k d, (k, d) ∈ x → (blkKind k, d) ∈ outs := by
  simp only [ae, Option.bind_eq_bind, Option.bind_eq_some_iff, Option.pure_def, Option.some.injEq] at h
  obtain ⟨x, hx, rfl⟩ := h
  refine ⟨x, hx, fun k d hm => List.mem_map.2 ⟨_, hm, ?_⟩⟩
  cases k with
  | brk n | cont n => cases n <;> rfl
  | _ => rfl

theorem ae_loop (h : ae (.loop body) = some outs) :
    ∃ x, ae body = some x ∧ (∀ d, (.norm, d) ∈ x ∨ (.cont 0, d) ∈ x → d = 0) ∧ (.norm, 0) ∈ outs ∧
      ∀ k d k', (k, d) ∈ x → loopKind k = some k' → (k', d) ∈ outs := by
  simp only [ae, Option.bind_eq_bind, Option.bind_eq_some_iff] at h
  obtain ⟨x, hx, h⟩ := h
  split at h
  · rename_i hall
    rw [List.all_eq_true] at hall
    cases h
    refine ⟨x, hx, ?_, List.mem_cons_self, fun k d k' hm hk =>
      List.mem_cons_of_mem _ (List.mem_filterMap.2 ⟨_, hm, ?_⟩)⟩
    · rintro d (hm | hm) <;> simpa using hall _ hm
    · unfold loopKind at hk
      split at hk <;> cases hk <;> rfl
  · cases h
end

theorem fnOk_spec {body : Stmt} (h : fnOk body = true) :
    ∃ outs, ae body = some outs ∧ ∀ k d, (k, d) ∈ outs → (k = .norm ∨ k = .ret) ∧ d = 0 := by
  unfold fnOk at h
  split at h
  · cases h
  · rename_i outs hae
    rw [List.all_eq_true] at h
    exact ⟨outs, hae, fun k d hm => by simpa using h (k, d) hm⟩

theorem balanced_fn {prog : List Stmt} (hb : balanced prog = true) {f : Nat} {body : Stmt}
    (hf : prog[f]? = some body) : fnOk body = true :=
  List.all_eq_true.1 hb body (List.mem_of_getElem? hf)

theorem sound (prog : List Stmt) (hb : balanced prog = true) :
    ∀ s d k d', Exec prog s d k d' → ∀ outs, ae s = some outs → (k, d' - d) ∈ outs := by
  intro s d k d' h
  induction h with
  | push d | pop d => intro outs h; cases h; simp; omega
  | skip d | brk n d | cont n d | ret d => intro outs h; cases h; simp
  | callN f body d d' hf _ ih | callR f body d d' hf _ ih =>
    intro outs h; cases h
    obtain ⟨o, ho, hall⟩ := fnOk_spec (balanced_fn hb hf)
    rw [(hall _ _ (ih o ho)).2]
    exact List.mem_singleton_self _
  | choiceL a b d k d' _ ih =>
    intro outs h
    obtain ⟨x, y, hx, hy, hm⟩ := ae_choice h
    exact hm _ (.inl (ih x hx))
  | choiceR a b d k d' _ ih =>
    intro outs h
    obtain ⟨x, y, hx, hy, hm⟩ := ae_choice h
    exact hm _ (.inr (ih y hy))
  | seqN a b d d1 k d2 _ _ iha ihb =>
    intro outs h
    obtain ⟨x, y, hx, hy, hm, _⟩ := ae_seq h
    have := hm _ _ _ (iha x hx) (ihb y hy)
    rwa [show d1 - d + (d2 - d1) = d2 - d by omega] at this
  | seqX a b d k d1 hk _ iha =>
    intro outs h
    obtain ⟨x, y, hx, hy, _, hm⟩ := ae_seq h
    exact hm _ _ (iha x hx) hk
  | blkN body d d' _ ih | blkB0 body d d' _ ih | blkB body n d d' _ ih | blkC0 body d d' _ ih
  | blkC body n d d' _ ih | blkR body d d' _ ih =>
    intro outs h
    obtain ⟨x, hx, hm⟩ := ae_blk h
    exact hm _ _ (ih x hx)
  | loopExit body d =>
    intro outs h
    obtain ⟨x, hx, _, h0, _⟩ := ae_loop h
    rwa [Int.sub_self]
  | loopN body d d1 k d2 _ _ ihb ihl =>
    intro outs h
    obtain ⟨x, hx, hz, _⟩ := ae_loop h
    obtain rfl : d1 = d := by have := hz _ (.inl (ihb x hx)); omega
    exact ihl outs h
  | loopC body d d1 k d2 _ _ ihb ihl =>
    intro outs h
    obtain ⟨x, hx, hz, _⟩ := ae_loop h
    obtain rfl : d1 = d := by have := hz _ (.inr (ihb x hx)); omega
    exact ihl outs h
  | loopB0 body d d' _ ih | loopB body n d d' _ ih | loopCn body n d d' _ ih | loopR body d d' _ ih =>
    intro outs h
    obtain ⟨x, hx, _, _, hm⟩ := ae_loop h
    exact hm _ _ _ (ih x hx) rfl

/-- every terminating execution of every function of a balanced program returns at its entry depth -/
theorem balanced_sound (prog : List Stmt) (hb : balanced prog = true) (f : Nat) (body : Stmt)
    (hf : prog[f]? = some body) (d d' : Int) (k : Kind) (h : Exec prog body d k d') : d' = d := by
  obtain ⟨o, ho, hall⟩ := fnOk_spec (balanced_fn hb hf)
  have := (hall _ _ (sound prog hb _ _ _ _ h o ho)).2
  omega

end HclModel.Skel
