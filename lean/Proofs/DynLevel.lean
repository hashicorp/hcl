import Proofs.DynBasic
import Proofs.BodyNative
/-!
For C18.  What `SBody.ok` / `STree.ok` (the hypotheses on source bodies and schema trees) give.  Then one level of an
expanded body, per source block: the blocks `XBody.contentCore` hands out are, in source order, what each source block
stands for (`xSeg`); the attributes are the schema's attributes found in the source.
-/
namespace HclModel.Dyn
open HclModel HclModel.Body

mutual
/-- `SBody.wf` of `Props/C18.lean`, which imports this file (`SBody.wf_eq_ok` there) -/
def SBody.ok : SBody → Bool
  | .mk attrs blocks => (attrs.map (·.1)).eraseDups.length == attrs.length && okAll blocks
def okAll : List SBlock → Bool
  | [] => true
  | .static t _ b :: rest => t != "dynamic" && b.ok && okAll rest
  | .dyn _ _ _ labels c :: rest => (match labels with | some [] => false | _ => true) && c.ok && okAll rest
end

mutual
/-- `STree.wf` of `Props/C18.lean` (`STree.wf_eq_ok` there) -/
def STree.ok : STree → Bool
  | .mk attrs blocks =>
    (attrs.map (·.name)).eraseDups.length == attrs.length &&
    (blocks.map (·.1.type)).eraseDups.length == blocks.length &&
    stOkAll blocks
def stOkAll : List (BlockSchema × STree) → Bool
  | [] => true
  | (bs, st) :: rest => bs.type != "dynamic" && st.ok && stOkAll rest
end

namespace Proofs
open HclModel.Body.Proofs

/-- what `okAll` says about one block -/
def BlockOk : SBlock → Prop
  | .static t _ b => t ≠ "dynamic" ∧ b.ok = true
  | .dyn _ _ _ labels c => labels ≠ some [] ∧ c.ok = true

/-- the type of the blocks a source block stands for, and the source of their bodies -/
def SBlock.ty : SBlock → String
  | .static t _ _ => t
  | .dyn t _ _ _ _ => t

def SBlock.body : SBlock → SBody
  | .static _ _ b => b
  | .dyn _ _ _ _ c => c

theorem BlockOk.body {blk : SBlock} (h : BlockOk blk) : (SBlock.body blk).ok = true := by
  cases blk <;> exact h.2

theorem okAll_iff (blocks : List SBlock) : okAll blocks = true ↔ ∀ blk ∈ blocks, BlockOk blk := by
  induction blocks with
  | nil => simp [okAll]
  | cons blk rest ih =>
    cases blk with
    | static t ls b =>
      simp only [okAll, Bool.and_eq_true, ih, List.mem_cons, forall_eq_or_imp, BlockOk, bne_iff_ne, ne_eq, and_assoc]
    | dyn t fe itn labels c =>
      simp only [okAll, Bool.and_eq_true, ih, List.mem_cons, forall_eq_or_imp, BlockOk, and_assoc]
      apply and_congr _ Iff.rfl
      cases labels with
      | none => simp
      | some l => cases l <;> simp

theorem SBody.ok_blocks {b : SBody} (h : b.ok = true) : okAll b.blocks = true := by
  cases b with
  | mk attrs blocks =>
    simp only [SBody.ok, Bool.and_eq_true] at h
    exact h.2

theorem stOkAll_iff (blocks : List (BlockSchema × STree)) :
    stOkAll blocks = true ↔ ∀ p ∈ blocks, p.1.type ≠ "dynamic" ∧ p.2.ok = true := by
  induction blocks with
  | nil => simp [stOkAll]
  | cons p rest ih =>
    obtain ⟨bs, st⟩ := p
    simp only [stOkAll, Bool.and_eq_true, ih, List.mem_cons, forall_eq_or_imp, bne_iff_ne, ne_eq, and_assoc]

theorem STree.ok_nodup {st : STree} (h : st.ok = true) : st.schema.nodup := by
  cases st with
  | mk attrs blocks =>
    simp only [STree.ok, Bool.and_eq_true] at h
    constructor
    · exact nodup_map_of_eraseDups_length _ attrs h.1.1
    · simp only [STree.schema, List.map_map]
      exact nodup_map_of_eraseDups_length _ blocks h.1.2

theorem STree.ok_no_dynamic {st : STree} (h : st.ok = true) : ∀ bs ∈ st.schema.blocks, bs.type ≠ "dynamic" := by
  cases st with
  | mk attrs blocks =>
    simp only [STree.ok, Bool.and_eq_true] at h
    intro bs hbs
    simp only [STree.schema, List.mem_map] at hbs
    obtain ⟨p, hp, rfl⟩ := hbs
    exact ((stOkAll_iff blocks).1 h.2 p hp).1

theorem STree.ok_child {st cst : STree} {ty : String} (h : st.ok = true) (hc : st.child ty = some cst) :
    cst.ok = true := by
  cases st with
  | mk attrs blocks =>
    simp only [STree.ok, Bool.and_eq_true] at h
    simp only [STree.child, Option.map_eq_some_iff] at hc
    obtain ⟨p, hp, rfl⟩ := hc
    exact ((stOkAll_iff blocks).1 h.2 p (List.mem_of_find?_eq_some hp)).2

theorem STree.child_isSome (st : STree) (ty : String) :
    (st.child ty).isSome = (st.schema.blocks.find? (fun b => b.type == ty)).isSome := by
  cases st with
  | mk attrs blocks =>
    simp only [STree.child, STree.schema, List.find?_map, Option.isSome_map]
    rfl

theorem STree.child_none_of_find? {st : STree} {ty : String}
    (h : st.schema.blocks.find? (fun b => b.type == ty) = none) : st.child ty = none := by
  have := STree.child_isSome st ty
  rw [h] at this
  simpa using this

theorem wanted_ext (s : Schema) (hA : List String) (hB : List BlockSchema) (ty : String)
    (h : ∀ bs ∈ hB, bs.type ≠ ty) :
    wanted (extendSchema s hA hB) ty = if ty = "dynamic" then some ⟨"dynamic", 1⟩ else wanted s ty := by
  have e1 : hB.reverse.find? (fun b => b.type == ty) = none := by
    rw [List.find?_eq_none]
    intro x hx
    simpa using h x (List.mem_reverse.1 hx)
  by_cases e2 : ty = "dynamic"
  · subst e2
    simp [wanted, extendSchema, List.reverse_append, List.find?_append, e1]
  · have e3 : ("dynamic" == ty) = false := by simpa using Ne.symm e2
    simp [wanted, extendSchema, List.reverse_append, List.find?_append, e1, e2, e3]

/-- what one raw block stands for (`here` in `expandBlocks`) -/
def xHere (ev : Env → Expr → Out) (ρf : Env) (its : Iters) (hiddenBlocks : List BlockSchema) (s : Schema)
    (raw : Body.Block SBlock) : List XBlock :=
  match raw.body with
  | .dyn type fe itn labels content =>
    if hiddenBlocks.any (·.type == type) then []
    else match s.blocks.find? (·.type == type) with
      | none => []
      | some bs => (expandDyn ev ρf its bs.labelCount type fe itn labels content).1
  | .static _ _ body =>
    if hiddenBlocks.any (·.type == raw.type) then []
    else [⟨raw.type, raw.labels, { src := body, its := its, marks := Fl.none }⟩]

theorem expandBlocks_fst (ev : Env → Expr → Out) (ρf : Env) (its : Iters) (hB : List BlockSchema) (s : Schema)
    (pm : Bool) (l : List (Body.Block SBlock)) :
    (expandBlocks ev ρf its hB s pm l).1 = l.flatMap (xHere ev ρf its hB s) := by
  induction l with
  | nil => rfl
  | cons raw rest ih =>
    rw [List.flatMap_cons, ← ih]
    simp only [expandBlocks, xHere]
    congr 1
    cases raw.body with
    | dyn type fe itn labels content =>
      simp only
      split
      · rfl
      · cases s.blocks.find? (fun x => x.type == type) <;> rfl
    | static t ls body =>
      simp only
      split <;> rfl

/-- what one source block stands for at a level processed with schema `s` while `hB` is hidden -/
def xSeg (ev : Env → Expr → Out) (ρf : Env) (its : Iters) (hB : List BlockSchema) (s : Schema) :
    SBlock → List XBlock
  | .static t ls body =>
    if hB.any (·.type == t) then []
    else match wanted s t with
      | some bs => if ls.length = bs.labelCount then [⟨t, ls, { src := body, its := its, marks := Fl.none }⟩] else []
      | none => []
  | .dyn t fe itn labels content =>
    if hB.any (·.type == t) then []
    else match s.blocks.find? (·.type == t) with
      | none => []
      | some bs => (expandDyn ev ρf its bs.labelCount t fe itn labels content).1

theorem xSeg_mem {ev : Env → Expr → Out} {ρf : Env} {its : Iters} {hB : List BlockSchema} {s : Schema}
    {blk : SBlock} {xb : XBlock} (h : xb ∈ xSeg ev ρf its hB s blk) :
    xb.type = SBlock.ty blk ∧ xb.body.src = SBlock.body blk ∧ xb.body.hiddenAttrs = [] ∧ xb.body.hiddenBlocks = [] ∧
    match blk with
    | .static t ls _ => xb.body.its = its ∧ ∃ bs ∈ s.blocks, bs.type = t ∧ ls.length = bs.labelCount
    | .dyn t _ itn _ _ => ∃ k v, xb.body.its = (itn.getD t, k, v) :: its := by
  cases blk with
  | static t ls body =>
    simp only [xSeg] at h
    split at h
    · cases h
    split at h
    · rename_i bs hw
      split at h
      · rename_i hl
        cases List.mem_singleton.1 h
        exact ⟨rfl, rfl, rfl, rfl, rfl, bs, (wanted_some hw).1, (wanted_some hw).2, hl⟩
      · cases h
    · cases h
  | dyn t fe itn labels content =>
    simp only [xSeg] at h
    split at h
    · cases h
    split at h
    · cases h
    obtain ⟨h1, h2, _, h4, h5, h6⟩ := expandDyn_mem _ _ _ _ _ _ _ _ _ _ h
    exact ⟨h1, h2, h4, h5, h6⟩

/-- the wrapped body lets through (`bgood`) exactly the blocks that stand for something -/
theorem xSeg_eq_xHere (ev : Env → Expr → Out) (ρf : Env) (its : Iters) (hA : List String)
    (hB : List BlockSchema) (s : Schema) (hdyn : ∀ bs ∈ hB, bs.type ≠ "dynamic") (blk : SBlock) (hblk : BlockOk blk) :
    xSeg ev ρf its hB s blk =
      if bgood [] (extendSchema s hA hB) blk.native then xHere ev ρf its hB s blk.native else [] := by
  cases blk with
  | dyn t fe itn labels content =>
    have : bgood [] (extendSchema s hA hB) (SBlock.native (.dyn t fe itn labels content)) = true := by
      simp [bgood, SBlock.native, wanted_ext s hA hB _ hdyn]
    rw [if_pos this]
    rfl
  | static t ls body =>
    simp only [xSeg, xHere, SBlock.native]
    by_cases hh : hB.any (·.type == t) = true
    · simp [hh]
    · have hnh : ∀ bs ∈ hB, bs.type ≠ t := fun bs hbs e => hh (List.any_eq_true.2 ⟨bs, hbs, by simp [e]⟩)
      have ew := (wanted_ext s hA hB t hnh).trans (if_neg hblk.1)
      simp only [if_neg hh, bgood, ew, List.contains_nil, Bool.not_false, Bool.true_and]
      cases wanted s t <;> simp [hh]

/-- `unknownBody.fixupContent` on one attribute and on one block; nothing to fix when the body is not wrapped -/
def fixA : Option Fl → String × XAttr → String × XAttr
  | none, p => p
  | some um, p => (p.1, { p.2 with unknown := true, marks := um })

def fixB (u : Option Fl) (blk : XBlock) : XBlock :=
  { blk with body := { blk.body with unknown := match u with | some um => some um | none => blk.body.unknown } }

theorem fixA_none : fixA none = id := rfl
theorem fixB_none : fixB none = id := rfl

theorem contentCore_fst (ev : Env → Expr → Out) (ρf : Env) (b : XBody) (s : Schema) (pm : Bool) :
    (b.contentCore ev ρf s pm).1 =
      { attrs := (((b.src.native.partialContent (extendSchema s b.hiddenAttrs b.hiddenBlocks)).1.attrs.filter
            fun p => !b.hiddenAttrs.contains p.1).map fun p =>
              (p.1, ({ expr := p.2, its := b.its, marks := b.marks } : XAttr))).map (fixA b.unknown),
        blocks := ((b.src.native.partialContent (extendSchema s b.hiddenAttrs b.hiddenBlocks)).1.blocks.flatMap
            (xHere ev ρf b.its b.hiddenBlocks s)).map (fixB b.unknown) } := by
  cases hu : b.unknown <;> cases pm <;>
    simp only [XBody.contentCore, hu, expandBlocks_fst, fixupUnknown, fixA_none, fixB_none, List.map_id,
      Bool.false_eq_true, if_false, if_true, content_fst] <;>
    rfl -- `fixA` and `fixB` at `some`

theorem unknown_part (ev : Env → Expr → Out) (ρf : Env) (b : XBody) (um : Fl) (s : Schema) (partialMode : Bool)
    (h : b.unknown = some um) :
    (∀ a ∈ (b.contentCore ev ρf s partialMode).1.attrs, ∀ ρ, a.2.value ev ρ = (Val.dynVal.withFl um, [])) ∧
    (∀ blk ∈ (b.contentCore ev ρf s partialMode).1.blocks, blk.body.unknown = some um) := by
  rw [contentCore_fst, h]
  constructor
  · intro a ha ρ
    obtain ⟨a', _, rfl⟩ := List.mem_map.1 ha
    rfl
  · intro blk hblk
    obtain ⟨blk', _, rfl⟩ := List.mem_map.1 hblk
    rfl

theorem unknown_shape (ev : Env → Expr → Out) (ρf : Env) (b : XBody) (um : Fl) (s : Schema) (partialMode : Bool) :
    let c := ({ b with unknown := none }.contentCore ev ρf s partialMode).1
    let cu := ({ b with unknown := some um }.contentCore ev ρf s partialMode).1
    cu.attrs.map (·.1) = c.attrs.map (·.1) ∧
    cu.blocks.map (fun x => (x.type, x.labels)) = c.blocks.map (fun x => (x.type, x.labels)) := by
  simp only [contentCore_fst, fixA_none, fixB_none, List.map_id, List.map_map]
  exact ⟨rfl, rfl⟩

theorem contentCore_blocks (ev : Env → Expr → Out) (ρf : Env) (b : XBody) (s : Schema) (pm : Bool)
    (hdyn : ∀ bs ∈ b.hiddenBlocks, bs.type ≠ "dynamic") (hok : okAll b.src.blocks = true) :
    (b.contentCore ev ρf s pm).1.blocks =
      (b.src.blocks.flatMap (xSeg ev ρf b.its b.hiddenBlocks s)).map (fixB b.unknown) := by
  rw [contentCore_fst, partial_blocks]
  simp only [SBody.native]
  rw [flatMap_filter, List.flatMap_map]
  exact congrArg _ (flatMap_congr' fun blk hblk =>
    (xSeg_eq_xHere ev ρf b.its b.hiddenAttrs b.hiddenBlocks s hdyn blk ((okAll_iff _).1 hok blk hblk)).symm)

theorem contentCore_attrs (ev : Env → Expr → Out) (ρf : Env) (b : XBody) (s : Schema) (pm : Bool)
    (hnd : ((s.attrs.map (·.name)) ++ b.hiddenAttrs).Nodup) :
    (b.contentCore ev ρf s pm).1.attrs =
      (s.attrs.filterMap (fun as => (findAttr as.name b.src.attrs).map fun e =>
        (as.name, ({ expr := e, its := b.its, marks := b.marks } : XAttr)))).map (fixA b.unknown) := by
  have hnd' : ((extendSchema s b.hiddenAttrs b.hiddenBlocks).attrs.map (·.name)).Nodup := by
    simpa [extendSchema, Function.comp_def] using hnd
  rw [contentCore_fst, partial_attrs b.src.native (extendSchema s b.hiddenAttrs b.hiddenBlocks) hnd'
    (by intro as _; simp [SBody.native])]
  simp only
  congr 1
  -- of the extended schema's attributes, the hidden ones are filtered out again and those of `s` stay
  have hhid : (b.hiddenAttrs.map fun n => ({ name := n, required := false } : AttrSchema)).filterMap (fun as =>
      ((findAttr as.name b.src.native.attrs).map fun a => (as.name, a)).filter fun p =>
        !b.hiddenAttrs.contains p.1) = [] :=
    List.filterMap_eq_nil_iff.2 fun as has => by
      obtain ⟨n, hn, rfl⟩ := List.mem_map.1 has
      cases findAttr n b.src.native.attrs <;> simp [Option.filter, hn]
  rw [List.filter_filterMap, extendSchema, List.filterMap_append, hhid, List.append_nil, List.map_filterMap]
  apply filterMap_congr'
  intro as has
  have : as.name ∉ b.hiddenAttrs := fun hm =>
    (List.nodup_append.1 hnd).2.2 _ (List.mem_map_of_mem has) _ hm rfl
  simp only [SBody.native]
  cases findAttr as.name b.src.attrs <;> simp [Option.filter, this]

end Proofs
end HclModel.Dyn
