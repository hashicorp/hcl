import HclModel.Write.StringLit
/-!
Round trip `parseQuoted (escape isPrint s) = some s` for quoted string literals (C11). It needs
`isPrint '{' = true`: `escape` doubles a `$` / `%` by looking at the *original* next character, so an unprintable
`{` would be written `\u007b` and the doubled introducer would read back as two characters. Go's `IsPrint('{')` holds.
-/
namespace HclModel.StringLit.Proofs
open HclModel.StringLit

theorem hexVal_hexDigit (d : Nat) (h : d < 16) : hexVal? (hexDigit d) = some d :=
  (by decide : ∀ d : Fin 16, hexVal? (hexDigit d.val) = some d.val) ⟨d, h⟩

theorem hexN_length (k n : Nat) : (hexN k n).length = k := by
  induction k generalizing n with
  | zero => simp [hexN]
  | succ k ih => simp [hexN, ih]

theorem hexNum_succ {k : Nat} {c : Char} {cs r : List Char} {n : Nat} :
    hexNum? (k+1) (c :: cs) = some (n, r) ↔
      ∃ d m, hexVal? c = some d ∧ hexNum? k cs = some (m, r) ∧ d * 16 ^ k + m = n := by
  simp [hexNum?, Option.bind_eq_some_iff]

theorem hexNum_snoc {c : Char} {d : Nat} (hc : hexVal? c = some d) (rest : List Char) :
    ∀ (ds : List Char) (n : Nat), hexNum? ds.length (ds ++ c :: rest) = some (n, c :: rest) →
      hexNum? (ds.length + 1) (ds ++ c :: rest) = some (n * 16 + d, rest)
  | [], n, h => by
    obtain rfl : 0 = n := by simpa [hexNum?] using h
    simp [hexNum?, hc]
  | x :: xs, n, h => by
    obtain ⟨dx, m, hx, hxs, rfl⟩ := hexNum_succ.1 h
    exact hexNum_succ.2 ⟨dx, m * 16 + d, hx, hexNum_snoc hc rest xs m hxs,
      by rw [List.length_cons, Nat.pow_succ, Nat.add_mul, ← Nat.mul_assoc, Nat.add_assoc]⟩

theorem hexNum_hexN (k n : Nat) (h : n < 16 ^ k) (rest : List Char) :
    hexNum? k (hexN k n ++ rest) = some (n, rest) := by
  induction k generalizing n rest with
  | zero => obtain rfl : n = 0 := by simpa using h
            rfl
  | succ k ih =>
    have hq : n / 16 < 16 ^ k := (Nat.div_lt_iff_lt_mul (by decide)).2 h
    have hs := hexNum_snoc (hexVal_hexDigit (n % 16) (Nat.mod_lt _ (by decide))) rest (hexN k (n / 16)) (n / 16)
    rw [hexN_length] at hs
    simp only [hexN, List.append_assoc, List.singleton_append]
    rw [hs (ih _ hq _), Nat.div_add_mod']

theorem scalar_toNat (c : Char) : scalar? c.toNat = some c := by
  simp [scalar?, show c.toNat.isValidChar from c.valid, Char.ofNat_toNat]

/-- the two-character escapes: `c` is written `\x` -/
def short : List (Char × Char) := [('\n', 'n'), ('\r', 'r'), ('\t', 't'), ('"', '"'), ('\\', '\\')]

theorem unescape_short {c x : Char} (h : (c, x) ∈ short) (fuel : Nat) (E : List Char) :
    unescape (fuel+1) (['\\', x] ++ E) = (c :: ·) <$> unescape fuel E := by
  simp only [short, List.mem_cons, Prod.mk.injEq, List.not_mem_nil, or_false] at h
  rcases h with ⟨rfl, rfl⟩ | ⟨rfl, rfl⟩ | ⟨rfl, rfl⟩ | ⟨rfl, rfl⟩ | ⟨rfl, rfl⟩ <;> rfl

theorem unescape_hex {x : Char} {k : Nat} (hk : x = 'u' ∧ k = 4 ∨ x = 'U' ∧ k = 8) {c : Char}
    (hc : c.toNat < 16 ^ k) (fuel : Nat) (E : List Char) :
    unescape (fuel+1) ('\\' :: x :: hexN k c.toNat ++ E) = (c :: ·) <$> unescape fuel E := by
  rcases hk with ⟨rfl, rfl⟩ | ⟨rfl, rfl⟩ <;> simp [unescape, hexNum_hexN _ _ hc, scalar_toNat]

theorem unescape_raw (fuel : Nat) (c : Char) (E : List Char) (h1 : c ≠ '\\')
    (h2 : ¬ (c = '$' ∨ c = '%')) (h3 : c ≠ '"') (h4 : c ≠ '\n') (h5 : c ≠ '\r') :
    unescape (fuel+1) (c :: E) = (c :: ·) <$> unescape fuel E := by
  simp [unescape, h1, h2, h3, h4, h5]

theorem intro_ne {c : Char} (hc : c = '$' ∨ c = '%') : c ≠ '\\' ∧ c ≠ '{' := by
  rcases hc with rfl | rfl <;> decide

theorem unescape_intro {c : Char} (hc : c = '$' ∨ c = '%') {E : List Char} (h1 : ∀ r, E ≠ '{' :: r)
    (h2 : ∀ r, E ≠ c :: '{' :: r) (fuel : Nat) :
    unescape (fuel+1) ([c] ++ E) = (c :: ·) <$> unescape fuel E := by
  simp only [List.cons_append, List.nil_append, unescape, if_neg (intro_ne hc).1, if_pos hc]
  split
  · exact absurd rfl (h1 _)
  · split
    · next h => subst h; exact absurd rfl (h2 _)
    · rfl
  · rfl

theorem unescape_doubled {c : Char} (hc : c = '$' ∨ c = '%') (fuel : Nat) (E : List Char) :
    unescape (fuel+1) ([c, c] ++ '{' :: E) = (fun t => c :: '{' :: t) <$> unescape fuel E := by
  rcases hc with rfl | rfl <;> rfl

/-- the forms of what `escape` writes for `c` when `rest` follows -/
inductive Pre (c : Char) (rest : List Char) : List Char → Prop
  | short (x : Char) : (c, x) ∈ short → Pre c rest ['\\', x]
  | doubled (t : List Char) : (c = '$' ∨ c = '%') → rest = '{' :: t → Pre c rest [c, c]
  | intro : (c = '$' ∨ c = '%') → (∀ t, rest ≠ '{' :: t) → Pre c rest [c]
  | hex (x : Char) (k : Nat) : (x = 'u' ∧ k = 4 ∨ x = 'U' ∧ k = 8) → c.toNat < 16 ^ k →
      Pre c rest ('\\' :: x :: hexN k c.toNat)
  | raw : c ≠ '\\' → ¬ (c = '$' ∨ c = '%') → c ≠ '"' → c ≠ '\n' → c ≠ '\r' → Pre c rest [c]

theorem escape_cons (isPrint : Char → Bool) (c : Char) (rest : List Char) :
    ∃ p, Pre c rest p ∧ escape isPrint (c :: rest) = p ++ escape isPrint rest := by
  refine ⟨_, ?_, rfl⟩
  by_cases hn : c = '\n'; · subst hn; exact .short 'n' (by decide)
  by_cases hr : c = '\r'; · subst hr; exact .short 'r' (by decide)
  by_cases ht : c = '\t'; · subst ht; exact .short 't' (by decide)
  by_cases hq : c = '"'; · subst hq; exact .short '"' (by decide)
  by_cases hbs : c = '\\'; · subst hbs; exact .short '\\' (by decide)
  rw [if_neg hn, if_neg hr, if_neg ht, if_neg hq, if_neg hbs]
  by_cases hc : c = '$' ∨ c = '%'
  · rw [if_pos hc]
    split
    · exact .doubled _ hc rfl
    · next hnb => exact .intro hc fun t e => hnb t e
  rw [if_neg hc]
  by_cases hp : (!isPrint c) = true
  · rw [if_pos hp]
    by_cases hlt : c.toNat < 65536
    · rw [if_pos hlt]; exact .hex 'u' 4 (.inl ⟨rfl, rfl⟩) hlt
    · rw [if_neg hlt]
      exact .hex 'U' 8 (.inr ⟨rfl, rfl⟩)
        (by have : c.toNat.isValidChar := c.valid; unfold Nat.isValidChar at this; omega)
  · rw [if_neg hp]; exact .raw hbs hc hq hn hr

theorem Pre.length_pos {c : Char} {rest p : List Char} (h : Pre c rest p) : 0 < p.length := by
  cases h <;> simp

theorem escape_brace {isPrint : Char → Bool} (hb : isPrint '{' = true) (t : List Char) :
    escape isPrint ('{' :: t) = '{' :: escape isPrint t := by
  simp [escape, hb]

theorem escape_head_brace {isPrint : Char → Bool} : ∀ {s r : List Char},
    escape isPrint s = '{' :: r → ∃ t, s = '{' :: t
  | d :: t, r, h => by
    obtain ⟨p, hP, he⟩ := escape_cons isPrint d t
    rw [he] at h
    cases hP <;> simp at h <;> exact ⟨t, by rw [h.1]⟩

theorem escape_ne_intro {isPrint : Char → Bool} {c : Char} (hc : c = '$' ∨ c = '%') :
    ∀ s r : List Char, escape isPrint s ≠ c :: '{' :: r
  | [], r, h => by simp [escape] at h
  | d :: t, r, h => by
    obtain ⟨p, hP, he⟩ := escape_cons isPrint d t
    rw [he] at h
    cases hP with
    | short x _ => exact (intro_ne hc).1 (by simp at h; exact h.1.symm)
    | hex x k _ _ => exact (intro_ne hc).1 (by simp at h; exact h.1.symm)
    | doubled _ hd _ => exact (intro_ne hd).2 (by simp at h; exact h.2.1)
    | intro _ hnb => obtain ⟨t', ht'⟩ := escape_head_brace (List.cons.inj h).2; exact hnb t' ht'
    | raw _ hd => exact hd ((List.cons.inj h).1 ▸ hc)

theorem unescape_escape (isPrint : Char → Bool) (hb : isPrint '{' = true) :
    ∀ (s : List Char) (fuel : Nat), (escape isPrint s).length < fuel →
      unescape fuel (escape isPrint s) = some s
  | [], fuel+1, _ => rfl
  | c :: rest, fuel, h => by
    obtain ⟨p, hP, he⟩ := escape_cons isPrint c rest
    rw [he] at h ⊢
    have hpos := hP.length_pos
    obtain ⟨f, rfl, hf⟩ : ∃ f, fuel = f + 1 ∧ (escape isPrint rest).length < f :=
      ⟨fuel - 1, by simp at h; omega, by simp at h; omega⟩
    have ih := unescape_escape isPrint hb rest f hf
    cases hP with
    | short x hx => rw [unescape_short hx, ih]; rfl
    | hex x k hk hlt => rw [unescape_hex hk hlt, ih]; rfl
    | raw h1 h2 h3 h4 h5 => rw [List.singleton_append, unescape_raw f c _ h1 h2 h3 h4 h5, ih]; rfl
    | intro hc hnb =>
      rw [unescape_intro hc (fun r e => (escape_head_brace e).elim hnb) (escape_ne_intro hc rest), ih]; rfl
    | doubled t hc hr =>
      -- the `{` is read together with the doubled introducer: the recursion continues two characters on
      subst hr
      rw [escape_brace hb] at hf ⊢
      rw [unescape_doubled hc, unescape_escape isPrint hb t f (by simp at hf; omega)]; rfl
termination_by s => s.length
decreasing_by
  · simp
  · simp [hr]; omega

theorem parseQuoted_escape (isPrint : Char → Bool) (hb : isPrint '{' = true) (s : List Char) :
    parseQuoted (escape isPrint s) = some s :=
  unescape_escape isPrint hb s _ (Nat.lt_succ_self _)

/-- without `isPrint '{'` the round trip fails: `${` is written `$$\u007b`, which reads back as `$${` -/
theorem escape_not_roundtrip_of_brace_unprintable :
    parseQuoted (escape (fun _ => false) ['$', '{']) = some ['$', '$', '{'] := by
  decide

end HclModel.StringLit.Proofs
