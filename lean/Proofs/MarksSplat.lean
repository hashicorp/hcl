import Proofs.MarksObj
/-!
C06: splat expressions in two runs, each read off `splatOut_clean`.  A source marked in both gives a marked result
(`splatOut_marked`); otherwise the runs take the same way and the results are related element by element
(`splatOut_rel`).
-/
namespace HclModel.Proofs
open Val

theorem splatFinish_marked {sv : Val} {sm : Fl} {rt : Ty × List Diag} {vals : List Val}
    (hm : sm.m = true) (h : (splatFinish sv sm rt vals []).2 = []) : (splatFinish sv sm rt vals []).1.fl.m = true := by
  rcases splatFinish_clean h with ⟨-, t, e, -⟩ | ⟨-, e⟩ <;> rw [e] <;> simp [hm]

theorem splatOut_marked {keep : Bool} {sv : Val} {sd : List Diag} {each : Val → Out} (hm : sv.fl.m = true)
    (h : (splatOut keep (sv, sd) each).2 = []) : (splatOut keep (sv, sd) each).1.fl.m = true := by
  obtain ⟨e, -, q⟩ := splatOut_clean h
  rw [e]
  -- every answer carries the flags of the source
  cases hn : sv.isNull
  · cases hd : (sv.typeOf == Ty.dyn)
    · cases hk : (splatSrc sv).isKnown
      · simp [hm]
      · cases hu : (splatAutoUp sv && !sv.isKnown)
        · simp only [Bool.not_true, Bool.false_eq_true, if_false]
          exact splatFinish_marked hm (((q hn hd).2 hk).2 hu)
        · simp [hm]
    · simp [hm]
  · simp [hm]

theorem relC_splatAutoUp {a b : Val} (h : relC a b = true) : splatAutoUp a = splatAutoUp b := by
  cases relC_view h <;> rfl

theorem relC_splatSrc {a b : Val} (h : relC a b = true) : relC (splatSrc a) (splatSrc b) = true := by
  unfold splatSrc
  rw [← relC_splatAutoUp h]
  split
  · simp [withFl, setFl, relC, relL, relV_of_relC h]
  · exact h

theorem relC_splatItems {a b : Val} (h : relC a b = true) : relL (splatItems a) (splatItems b) = true := by
  cases relC_view h <;> first | rfl | assumption

theorem splatFinish_rel {sv sv' : Val} {sm sm' : Fl} {rt rt' : Ty × List Diag} {vals vals' : List Val}
    (hc : relC sv sv' = true) (hv : relL vals vals' = true)
    (hty : typeOf (splatFinish sv sm rt vals []).1 = typeOf (splatFinish sv' sm' rt' vals' []).1)
    (h1 : (splatFinish sv sm rt vals []).2 = []) (h2 : (splatFinish sv' sm' rt' vals' []).2 = []) :
    relV (splatFinish sv sm rt vals []).1 (splatFinish sv' sm' rt' vals' []).1 = true := by
  rcases splatFinish_clean h1 with ⟨⟨f, u, xs, rfl⟩, t, e1, -⟩ | ⟨n1, e1⟩ <;>
    rcases splatFinish_clean h2 with ⟨⟨f', u', xs', rfl⟩, t', e2, -⟩ | ⟨n2, e2⟩ <;> rw [e1, e2] at hty ⊢
  · -- two lists: their element types agree, as the types of the results do
    simp [typeOf, withFl, setFl] at hty
    simp [relV, withFl, setFl, hty, hv]
  · cases relC_view hc; exact absurd rfl (n2 _ _ _)
  · cases relC_view hc; exact absurd rfl (n1 _ _ _)
  · simp [relV, withFl, setFl, hv]

theorem splatOut_rel {so so' : Out} {each each' : Val → Out} (hr : relV so.1 so'.1 = true)
    (hty : bm so.1 so'.1 ∨ typeOf (splatOut true so each).1 = typeOf (splatOut true so' each').1)
    (heach : ¬ bm so.1 so'.1 → ∀ p ∈ (splatElems so.1).zip (splatElems so'.1), relV p.1 p.2 = true →
      (each p.1).2 = [] → (each' p.2).2 = [] → relV (each p.1).1 (each' p.2).1 = true)
    (h1 : (splatOut true so each).2 = []) (h2 : (splatOut true so' each').2 = []) :
    relV (splatOut true so each).1 (splatOut true so' each').1 = true := by
  obtain ⟨sv, sd⟩ := so
  obtain ⟨sv', sd'⟩ := so'
  simp only [] at hr hty heach
  by_cases hb : bm sv sv'
  · exact relV_top (splatOut_marked hb.1 h1) (splatOut_marked hb.2 h2)
  have hty := hty.resolve_left hb
  have heach := heach hb
  have rc := relC_of_not_bm hr hb
  have rc2 := relC_splatSrc rc
  obtain ⟨e1, -, q1⟩ := splatOut_clean h1
  obtain ⟨e2, -, q2⟩ := splatOut_clean h2
  -- the two runs take the same way
  rw [← relC_splatAutoUp rc, ← relC_isNull rc, ← relC_typeOf_dyn rc, ← relC_isKnown rc, ← relC_isKnown rc2] at e2 q2
  rw [e1, e2] at hty ⊢
  cases hn : sv.isNull
  · cases hd : (sv.typeOf == Ty.dyn)
    · simp only [hn, hd, Bool.false_eq_true, if_false] at hty ⊢
      cases hk : (splatSrc sv).isKnown
      · simp only [hk, Bool.not_false, if_true] at hty ⊢
        simp [typeOf, withFl, setFl] at hty
        simp [relV, withFl, setFl, hty]
      · cases hu : (splatAutoUp sv && !sv.isKnown)
        · simp only [hk, hu, Bool.not_true, Bool.false_eq_true, if_false] at hty ⊢
          obtain ⟨d1, f1⟩ := (q1 hn hd).2 hk
          obtain ⟨d2, f2⟩ := (q2 hn hd).2 hk
          have rc3 : relC (splatSrc sv).unmark.1 (splatSrc sv').unmark.1 = true := by simpa using rc2
          apply splatFinish_rel rc3 _ hty (f1 hu) (f2 hu)
          rw [List.map_map, List.map_map]
          exact relL_map _ _ (relC_splatItems rc3) fun p hp hrel =>
            heach p hp hrel (d1 p.1 (List.of_mem_zip hp).1) (d2 p.2 (List.of_mem_zip hp).2)
        · simp [relV, dynVal, withFl, setFl]
    · simp [relV, dynVal, withFl, setFl]
  · simp [relV, withFl, setFl, relL]
end HclModel.Proofs
