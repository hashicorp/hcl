import HclModel.Json.Grammar
import Proofs.JsonString
/-!
Scanner lemmas for C13 and C14.  One round of the scanner loop emits the token whose type and length `lex1` computes
from the class of the first byte, and the classes exclude one another.  `lex1_spec` bounds the token, so the scanner
does not depend on its fuel; then what it produces for each kind of token.  C13 needs the lengths only.  C14
(`Proofs/JsonScanPos.lean`) needs also that no token holds a newline, byte 10: positions inside a token then advance
by column alone, and only whitespace moves the line; that is why `lex1_spec` and the lemmas under it speak of 10
and of `32 ≤ x`.
-/
namespace HclModel.Json.Proofs
open HclModel.Json

theorem drop_length_takeWhile (p : Byte → Bool) (l : List Byte) :
    l.drop (l.takeWhile p).length = l.dropWhile p := by
  induction l with
  | nil => rfl
  | cons a l ih => by_cases h : p a <;> simp [h, ih]

theorem take_length_takeWhile (p : Byte → Bool) (l : List Byte) :
    l.take (l.takeWhile p).length = l.takeWhile p := by
  induction l with
  | nil => rfl
  | cons a l ih => by_cases h : p a <;> simp [h, ih]

theorem length_takeWhile_dropWhile (p : Byte → Bool) (l : List Byte) :
    (l.takeWhile p).length + (l.dropWhile p).length = l.length := by
  rw [← List.length_append, List.takeWhile_append_dropWhile]

/-- type and length of the token at the head of `b :: rest`, where `b` is not whitespace; `none` when `b`
    cannot start a token -/
def lex1 (adv : List Byte → Nat) (b : Byte) (rest : List Byte) : Option (TT × Nat) :=
  match punct b with
  | some ty => some (ty, 1)
  | none =>
    if b = 34 then some (.string, min (scanStringLen adv (b :: rest)) (rest.length + 1))
    else if canStartNumber b then some (.number, ((b :: rest).takeWhile isNumberByte).length)
    else if isAlpha b then some (.keyword, ((b :: rest).takeWhile isKeywordByte).length)
    else none

theorem lex1_quote (adv : List Byte → Nat) (rest : List Byte) :
    lex1 adv 34 rest = some (.string, min (scanStringLen adv (34 :: rest)) (rest.length + 1)) := rfl

theorem canStartNumber_isNumberByte {b : Byte} (h : canStartNumber b = true) : isNumberByte b = true := by
  simp only [canStartNumber, Bool.or_eq_true] at h
  rcases h with ((h | h) | h) | h <;> simp [isNumberByte, h]

theorem isAlpha_isKeywordByte {b : Byte} (h : isAlpha b = true) : isKeywordByte b = true := by
  simp [isKeywordByte, h]

/-- `rest` is what follows the first byte of the cluster: a clamped step skips `clampAdv a rest - 1` bytes of it -/
theorem clampAdv_spec (a : Nat) (rest : List Byte) (ha : 1 ≤ a) :
    1 ≤ clampAdv a rest ∧ clampAdv a rest ≤ a ∧
    ∀ x ∈ rest.take (clampAdv a rest - 1), x ≠ 34 ∧ x ≠ 92 ∧ 32 ≤ x := by
  have hp : ∀ x : Byte, ¬ (x = 34 || x = 92 || x < 32) = true → x ≠ 34 ∧ x ≠ 92 ∧ 32 ≤ x := by
    intro x h
    simp only [Bool.or_eq_true, decide_eq_true_eq, not_or, Nat.not_lt] at h
    exact ⟨h.1.1, h.1.2, h.2⟩
  unfold clampAdv
  cases hj : (rest.take (a - 1)).findIdx? (fun c => c = 34 || c = 92 || c < 32) with
  | some j =>
    dsimp only
    obtain ⟨hlt, _, hall⟩ := List.findIdx?_eq_some_iff_getElem.mp hj
    have hja : j < a - 1 := Nat.lt_of_lt_of_le hlt (List.length_take_le _ _)
    refine ⟨Nat.le_add_left 1 j, by omega, fun x hx => ?_⟩
    obtain ⟨i, hi, rfl⟩ := List.mem_take_iff_getElem.mp hx
    have := hall i (Nat.lt_of_lt_of_le hi (Nat.min_le_left _ _))
    rw [List.getElem_take] at this
    exact hp _ this
  | none =>
    exact ⟨ha, Nat.le_refl _, fun x hx => hp x (by simpa using List.findIdx?_eq_none_iff.mp hj x hx)⟩

theorem okBody_drop : ∀ (k : Nat) (s : List Byte), okBody s false →
    (∀ x ∈ s.take k, x ≠ 34 ∧ x ≠ 92 ∧ 32 ≤ x) → okBody (s.drop k) false := by
  intro k
  induction k with
  | zero => intro s h _; exact h
  | succ k ih =>
    intro s h hx
    cases s with
    | nil => exact h
    | cons x s =>
      obtain ⟨h34, h92, _⟩ := hx x (by simp)
      simp only [okBody, h92, h34, if_false] at h
      exact ih s h.2 (fun y hy => hx y (by simp [hy]))

theorem bytes_cons {c : Byte} {rest : List Byte} {k : Nat} (hc : 32 ≤ c)
    (ih : k ≤ rest.length ∧ ∀ x ∈ rest.take k, 32 ≤ x) :
    1 + k ≤ (c :: rest).length ∧ ∀ x ∈ (c :: rest).take (1 + k), 32 ≤ x := by
  rw [Nat.add_comm 1, List.take_succ_cons]
  exact ⟨Nat.succ_le_succ ih.1, List.forall_mem_cons.mpr ⟨hc, ih.2⟩⟩

theorem scanStringBody_bytes (adv : List Byte → Nat) (fuel : Nat) (buf : List Byte) (esc : Bool) :
    scanStringBody adv fuel buf esc ≤ buf.length ∧
      ∀ x ∈ buf.take (scanStringBody adv fuel buf esc), 32 ≤ x := by
  fun_induction scanStringBody adv fuel buf esc with
  | case1 => simp
  | case2 => simp
  | case3 fuel rest esc ih => exact bytes_cons (by decide) ih
  | case4 => simp
  | case5 fuel rest esc _ _ ih => exact bytes_cons (by decide) ih
  | case6 => simp
  | case7 fuel b rest esc h92 h34 hlt a0 a1 a ih =>
    obtain ⟨ha1, ha2, hskip⟩ := clampAdv_spec a1 rest (Nat.le_min.mpr ⟨Nat.le_max_left _ _, Nat.le_add_left _ _⟩)
    have ha3 : a ≤ rest.length + 1 := Nat.le_trans ha2 (Nat.min_le_right _ _)
    have ha : a = (a - 1) + 1 := (Nat.sub_add_cancel ha1).symm
    rw [List.length_drop] at ih
    refine ⟨by rw [List.length_cons]; omega, fun x hx => ?_⟩
    rw [ha, Nat.add_right_comm, List.take_succ_cons, List.take_add] at hx
    rcases List.mem_cons.mp hx with rfl | hx
    · exact Nat.le_of_not_lt hlt
    · rcases List.mem_append.mp hx with hx | hx
      · exact (hskip x hx).2.2
      · exact ih.2 x hx

theorem run_spec {p : Byte → Bool} {b : Byte} (rest : List Byte) (hb : p b = true) (hp : p 10 = false) :
    1 ≤ ((b :: rest).takeWhile p).length ∧ ((b :: rest).takeWhile p).length ≤ rest.length + 1 ∧
      10 ∉ (b :: rest).take ((b :: rest).takeWhile p).length := by
  have hlen : 1 ≤ ((b :: rest).takeWhile p).length ∧ ((b :: rest).takeWhile p).length ≤ rest.length + 1 := by
    have := length_takeWhile_dropWhile p (b :: rest)
    simp only [List.takeWhile_cons_of_pos hb, List.length_cons] at this ⊢
    omega
  refine ⟨hlen.1, hlen.2, fun hm => ?_⟩
  rw [take_length_takeWhile] at hm
  exact Bool.false_ne_true (hp.symm.trans (mem_takeWhile_imp hm))

theorem lex1_spec {adv : List Byte → Nat} {b : Byte} {rest : List Byte} {ty : TT} {n : Nat} :
    lex1 adv b rest = some (ty, n) →
    1 ≤ n ∧ n ≤ rest.length + 1 ∧ 10 ∉ (b :: rest).take n ∧
      ((punct b = some ty ∧ n = 1) ∨ ty = .string ∨ ty = .number ∨ ty = .keyword) := by
  fun_cases lex1 adv b rest with
  | case1 ty' hp =>
    rintro ⟨⟩
    refine ⟨Nat.le_refl 1, Nat.le_add_left 1 _, fun hm => ?_, .inl ⟨hp, rfl⟩⟩
    rw [List.take_succ_cons, List.take_zero, List.mem_singleton] at hm
    rw [← hm] at hp
    cases hp
  | case2 hp h34 =>
    rintro ⟨⟩
    obtain ⟨hle, hge⟩ := scanStringBody_bytes adv ((b :: rest).length + 1) rest false
    refine ⟨by simp only [scanStringLen]; omega, Nat.min_le_right _ _, fun hm => ?_, .inr (.inl rfl)⟩
    rw [scanStringLen, List.tail_cons, Nat.min_eq_left (by omega), Nat.add_comm 1, List.take_succ_cons, h34] at hm
    rcases List.mem_cons.mp hm with h | hm
    · cases h
    · exact absurd (hge 10 hm) (by decide)
  | case3 hp h34 hn =>
    rintro ⟨⟩
    obtain ⟨h1, h2, h3⟩ := run_spec rest (canStartNumber_isNumberByte hn) rfl
    exact ⟨h1, h2, h3, .inr (.inr (.inl rfl))⟩
  | case4 hp h34 hn ha =>
    rintro ⟨⟩
    obtain ⟨h1, h2, h3⟩ := run_spec rest (isAlpha_isKeywordByte ha) rfl
    exact ⟨h1, h2, h3, .inr (.inr (.inr rfl))⟩
  | case5 => intro h; cases h

/-- one round of the scanner loop on input that does not start with whitespace; `k` scans what follows
    the token -/
def S1 (adv : List Byte → Nat) (k : List Byte → Nat → List Token) (b : Byte) (rest : List Byte) (pos : Nat) :
    List Token :=
  match lex1 adv b rest with
  | some (ty, n) => ⟨ty, (b :: rest).take n, pos⟩ :: k ((b :: rest).drop n) (pos + n)
  | none => [⟨.invalid, [b], pos⟩, ⟨.eof, [], pos + 1⟩]

theorem scanFrom_succ (adv : List Byte → Nat) (f : Nat) (buf : List Byte) (pos : Nat) :
    scanFrom adv (f + 1) buf pos =
      match buf.dropWhile isWs with
      | [] => [⟨.eof, [], pos + (buf.takeWhile isWs).length⟩]
      | b :: rest => S1 adv (scanFrom adv f) b rest (pos + (buf.takeWhile isWs).length) := by
  simp only [scanFrom]
  rw [drop_length_takeWhile]
  cases buf.dropWhile isWs with
  | nil => rfl
  | cons b rest =>
    unfold S1
    fun_cases lex1 adv b rest with
    | case1 ty hp => simp only [lex1, hp]; rfl
    | case2 hp h34 => simp only [lex1, hp, if_pos h34]
    | case3 hp h34 hn => simp only [lex1, hp, if_neg h34, if_pos hn]
    | case4 hp h34 hn ha => simp only [lex1, hp, if_neg h34, if_neg hn, if_pos ha]
    | case5 hp h34 hn ha => simp only [lex1, hp, if_neg h34, if_neg hn, if_neg ha]

/-- the continuation is only asked about input shorter than `b :: rest` -/
theorem S1_congr (adv : List Byte → Nat) {k k' : List Byte → Nat → List Token} {b : Byte} {rest : List Byte}
    (h : ∀ X p, X.length ≤ rest.length → k X p = k' X p) (pos : Nat) :
    S1 adv k b rest pos = S1 adv k' b rest pos := by
  unfold S1
  cases hx : lex1 adv b rest with
  | none => rfl
  | some tn =>
    have := (lex1_spec hx).1
    dsimp only
    rw [h _ _ (by simp only [List.length_drop, List.length_cons]; omega)]

theorem scanFrom_fuel (adv : List Byte → Nat) : ∀ f1 f2 buf pos, buf.length < f1 → buf.length < f2 →
    scanFrom adv f1 buf pos = scanFrom adv f2 buf pos := by
  intro f1
  induction f1 with
  | zero => intro f2 buf pos h; omega
  | succ f1 ih =>
    intro f2 buf pos h1 h2
    obtain ⟨f2, rfl⟩ : ∃ k, f2 = k + 1 := ⟨f2 - 1, by omega⟩
    rw [scanFrom_succ, scanFrom_succ]
    have hl := length_takeWhile_dropWhile isWs buf
    cases hd : buf.dropWhile isWs with
    | nil => rfl
    | cons b rest =>
      rw [hd, List.length_cons] at hl
      exact S1_congr adv (fun X p hX => ih f2 X p (by omega) (by omega)) _

/-- the scanner with canonical fuel -/
def S (adv : List Byte → Nat) (buf : List Byte) (pos : Nat) : List Token :=
  scanFrom adv (buf.length + 1) buf pos

theorem scan_eq_S (adv : List Byte → Nat) (buf : List Byte) : scan adv buf = S adv buf 0 := rfl

theorem S_eq (adv : List Byte → Nat) (buf : List Byte) (pos : Nat) :
    S adv buf pos =
      match buf.dropWhile isWs with
      | [] => [⟨.eof, [], pos + (buf.takeWhile isWs).length⟩]
      | b :: rest => S1 adv (S adv) b rest (pos + (buf.takeWhile isWs).length) := by
  unfold S
  rw [scanFrom_succ]
  have hl := length_takeWhile_dropWhile isWs buf
  cases hd : buf.dropWhile isWs with
  | nil => rfl
  | cons b rest =>
    rw [hd, List.length_cons] at hl
    exact S1_congr adv (fun X p hX => scanFrom_fuel adv _ _ X p (by omega) (by omega)) _

theorem S_nil (adv : List Byte → Nat) (pos : Nat) : S adv [] pos = [⟨.eof, [], pos⟩] := by
  rw [S_eq]; rfl

theorem S_cons (adv : List Byte → Nat) {b : Byte} (rest : List Byte) (pos : Nat) (h : isWs b = false) :
    S adv (b :: rest) pos = S1 adv (S adv) b rest pos := by
  rw [S_eq]; simp [h]

theorem S_ws (adv : List Byte → Nat) {w : List Byte} (h : AllWs w) (x : List Byte) (pos : Nat) :
    S adv (w ++ x) pos = S adv x (pos + w.length) := by
  rw [S_eq, S_eq adv x, List.dropWhile_append_of_pos h, List.takeWhile_append_of_pos h]
  simp only [List.length_append, Nat.add_assoc]

theorem allWs_takeWhile (buf : List Byte) : AllWs (buf.takeWhile isWs) := fun _ hb => mem_takeWhile_imp hb

theorem scanStringBody_ok (adv : List Byte → Nat) (rest : List Byte) :
    ∀ (fuel : Nat) (s : List Byte) (esc : Bool), okBody s esc → s.length < fuel →
      scanStringBody adv fuel (s ++ 34 :: rest) esc = s.length + 1 := by
  intro fuel
  induction fuel with
  | zero => exact fun _ _ _ hf => absurd hf (Nat.not_lt_zero _)
  | succ f ih =>
    intro s esc
    fun_cases okBody s esc with
    | case1 esc => rintro rfl _; rfl
    | case2 s esc =>
      intro hok hf
      simp only [List.cons_append, scanStringBody, if_true, List.length_cons]
      rw [ih s _ hok (Nat.lt_of_succ_lt_succ hf)]; omega
    | case3 s esc h92 =>
      rintro ⟨rfl, hok⟩ hf
      simp only [List.cons_append, scanStringBody, if_neg h92, if_true, List.length_cons, Bool.not_true,
        Bool.false_eq_true, if_false]
      rw [ih s _ hok (Nat.lt_of_succ_lt_succ hf)]; omega
    | case4 b s esc h92 h34 =>
      rintro ⟨h32, hok⟩ hf
      simp only [List.cons_append, scanStringBody, if_neg h92, if_neg h34, if_neg (Nat.not_lt.mpr h32),
        List.length_cons] at hf ⊢
      -- the cluster, clamped: it cannot reach the closing quote
      generalize ha0 : min (max 1 (adv (b :: (s ++ 34 :: rest)))) ((s ++ 34 :: rest).length + 1) = a0
      obtain ⟨ha1, _, hskip⟩ := clampAdv_spec a0 (s ++ 34 :: rest) (by omega)
      generalize clampAdv a0 (s ++ 34 :: rest) = a at ha1 hskip ⊢
      have ha2 : a - 1 ≤ s.length := Nat.le_of_not_lt fun hgt =>
        (hskip 34 (List.mem_take_iff_getElem.mpr ⟨s.length, by simp; omega, by simp⟩)).1 rfl
      rw [List.take_append_of_le_length ha2] at hskip
      rw [List.drop_append_of_le_length ha2,
        ih _ _ (okBody_drop _ _ hok hskip) (by simp only [List.length_drop]; omega), List.length_drop]
      omega

theorem punct_dom {b : Byte} {ty : TT} (h : punct b = some ty) :
    b = 123 ∨ b = 125 ∨ b = 91 ∨ b = 93 ∨ b = 44 ∨ b = 58 ∨ b = 61 := by
  refine Decidable.by_contra fun hn => ?_
  simp only [not_or] at hn
  simp [punct, hn] at h

theorem punct_cases {b : Byte} {ty : TT} (h : punct b = some ty) :
    (b = 123 ∧ ty = .braceO) ∨ (b = 125 ∧ ty = .braceC) ∨ (b = 91 ∧ ty = .brackO) ∨ (b = 93 ∧ ty = .brackC) ∨
    (b = 44 ∧ ty = .comma) ∨ (b = 58 ∧ ty = .colon) ∨ (b = 61 ∧ ty = .equals) := by
  rcases punct_dom h with rfl | rfl | rfl | rfl | rfl | rfl | rfl <;> cases h <;> simp

/- The byte classes the scanner tells apart exclude one another: each is a union of a few byte values and ranges,
   which are disjoint.  Where a class is a range the proof unfolds the tests to comparisons (with `Byte`, which `omega`
   does not look through) and leaves the arithmetic to `omega`. -/
theorem isWs_class {b : Byte} (h : isWs b = true) : isNumberByte b = false ∧ isKeywordByte b = false := by
  simp only [isWs, Bool.or_eq_true, decide_eq_true_eq] at h
  rcases h with ((rfl | rfl) | rfl) | rfl <;> exact ⟨rfl, rfl⟩

theorem punct_class {b : Byte} {ty : TT} (h : punct b = some ty) :
    isWs b = false ∧ isNumberByte b = false ∧ isKeywordByte b = false := by
  rcases punct_dom h with rfl | rfl | rfl | rfl | rfl | rfl | rfl <;> exact ⟨rfl, rfl, rfl⟩

theorem punct_none {b : Byte} (h : isNumberByte b = true ∨ isKeywordByte b = true) : punct b = none := by
  cases hp : punct b with
  | none => rfl
  | some ty =>
    obtain ⟨-, h1, h2⟩ := punct_class hp
    rw [h1, h2] at h
    exact absurd h (by decide)

theorem number_class {b : Byte} (h : canStartNumber b = true) : isWs b = false ∧ punct b = none ∧ b ≠ 34 := by
  have : isWs b = false ∧ b ≠ 34 := by
    simp only [Byte, isWs, canStartNumber, isDigit, Bool.or_eq_true, Bool.and_eq_true, Bool.or_eq_false_iff,
      decide_eq_true_eq, decide_eq_false_iff_not] at h ⊢
    omega
  exact ⟨this.1, punct_none (.inl (canStartNumber_isNumberByte h)), this.2⟩

theorem alpha_class {b : Byte} (h : isAlpha b = true) :
    isWs b = false ∧ punct b = none ∧ b ≠ 34 ∧ ¬ canStartNumber b = true := by
  have : isWs b = false ∧ b ≠ 34 ∧ ¬ canStartNumber b = true := by
    simp only [Byte, isWs, isAlpha, canStartNumber, isDigit, Bool.or_eq_true, Bool.and_eq_true, Bool.or_eq_false_iff,
      decide_eq_true_eq, decide_eq_false_iff_not] at h ⊢
    omega
  exact ⟨this.1, punct_none (.inr (isAlpha_isKeywordByte h)), this.2⟩

theorem punct_ty_ne {c : Byte} {ty : TT} (h : punct c = some ty) :
    ty ≠ .eof ∧ ty ≠ .string ∧ ty ≠ .number ∧ ty ≠ .keyword ∧ ty ≠ .invalid := by
  rcases punct_cases h with h | h | h | h | h | h | h <;> (rw [h.2]; decide)

theorem S_tok (adv : List Byte → Nat) {b : Byte} {rest : List Byte} {ty : TT} {n : Nat} (hws : isWs b = false)
    (h : lex1 adv b rest = some (ty, n)) (pos : Nat) :
    S adv (b :: rest) pos = ⟨ty, (b :: rest).take n, pos⟩ :: S adv ((b :: rest).drop n) (pos + n) := by
  rw [S_cons adv rest pos hws, S1, h]

theorem S_punct (adv : List Byte → Nat) {b : Byte} {ty : TT} (h : punct b = some ty) (r : List Byte) (pos : Nat) :
    S adv (b :: r) pos = ⟨ty, [b], pos⟩ :: S adv r (pos + 1) :=
  S_tok adv (n := 1) (punct_class h).1 (by simp only [lex1, h]) pos

theorem S_lit (adv : List Byte → Nat) {b : Byte} {v' r : List Byte} {ty : TT} (hws : isWs b = false)
    (h : lex1 adv b (v' ++ r) = some (ty, (b :: v').length)) (pos : Nat) :
    S adv (b :: v' ++ r) pos = ⟨ty, b :: v', pos⟩ :: S adv r (pos + (b :: v').length) := by
  rw [List.cons_append, S_tok adv hws h, ← List.cons_append, List.take_left' rfl, List.drop_left' rfl]

/-- what may follow a value inside a JSON text: nothing that would extend a number or keyword token -/
def Follow (r : List Byte) : Prop := NoHead isNumberByte r ∧ NoHead isKeywordByte r

theorem Follow.nil : Follow [] := ⟨.nil, .nil⟩

theorem Follow.cons {b : Byte} (r : List Byte) (h1 : isNumberByte b = false) (h2 : isKeywordByte b = false) :
    Follow (b :: r) :=
  ⟨.cons r h1, .cons r h2⟩

theorem Follow.ws {w : List Byte} (hw : AllWs w) {r : List Byte} (hr : Follow r) : Follow (w ++ r) := by
  cases w with
  | nil => exact hr
  | cons a w =>
    have := isWs_class (hw a List.mem_cons_self)
    exact Follow.cons _ this.1 this.2

theorem S_number (adv : List Byte → Nat) {b : Byte} {v' : List Byte} (hb : canStartNumber b = true)
    (hv : ∀ x ∈ b :: v', isNumberByte x = true) {r : List Byte} (hr : Follow r) (pos : Nat) :
    S adv (b :: v' ++ r) pos = ⟨.number, b :: v', pos⟩ :: S adv r (pos + (b :: v').length) := by
  obtain ⟨hws, hp, h34⟩ := number_class hb
  refine S_lit adv hws ?_ pos
  simp only [lex1, hp, if_neg h34, if_pos hb]
  rw [← List.cons_append, (span_run hv hr.1).1]

theorem S_keyword (adv : List Byte → Nat) {b : Byte} {v' : List Byte} (hb : isAlpha b = true)
    (hv : ∀ x ∈ b :: v', isKeywordByte x = true) {r : List Byte} (hr : Follow r) (pos : Nat) :
    S adv (b :: v' ++ r) pos = ⟨.keyword, b :: v', pos⟩ :: S adv r (pos + (b :: v').length) := by
  obtain ⟨hws, hp, h34, hn⟩ := alpha_class hb
  refine S_lit adv hws ?_ pos
  simp only [lex1, hp, if_neg h34, if_neg hn, if_pos hb]
  rw [← List.cons_append, (span_run hv hr.2).1]

theorem S_string (adv : List Byte → Nat) {s : List Byte} (hok : okBody s false)
    (r : List Byte) (pos : Nat) :
    S adv (34 :: s ++ 34 :: r) pos = ⟨.string, 34 :: s ++ [34], pos⟩ :: S adv r (pos + (s.length + 2)) := by
  have hlex : lex1 adv 34 ((s ++ [34]) ++ r) = some (.string, (34 :: (s ++ [34])).length) := by
    rw [lex1_quote, scanStringLen, List.tail_cons, List.append_assoc, List.singleton_append,
      scanStringBody_ok adv r _ s false hok (by simp only [List.length_append, List.length_cons]; omega)]
    simp only [List.length_append, List.length_cons, List.length_nil]
    congr 2; omega
  have h := S_lit adv (by decide) hlex pos
  simpa using h

theorem S_inv {adv : List Byte → Nat} {buf : List Byte} {pos : Nat} {t : Token} {ts : List Token}
    (h : S adv buf pos = t :: ts) :
    ∃ w buf1, buf = w ++ buf1 ∧ AllWs w ∧
      ((buf1 = [] ∧ t.ty = .eof ∧ ts = []) ∨
       (∃ b r pos', buf1 = b :: r ∧ punct b = some t.ty ∧ ts = S adv r pos') ∨
       (∃ buf2 pos', buf1 = t.bytes ++ buf2 ∧ ts = S adv buf2 pos' ∧
          (t.ty = .string ∨ t.ty = .number ∨ t.ty = .keyword)) ∨
       t.ty = .invalid) := by
  refine ⟨buf.takeWhile isWs, buf.dropWhile isWs, List.takeWhile_append_dropWhile.symm, allWs_takeWhile buf, ?_⟩
  rw [S_eq] at h
  generalize buf.dropWhile isWs = d at h
  generalize pos + (buf.takeWhile isWs).length = p at h
  cases d with
  | nil => cases h; exact .inl ⟨rfl, rfl, rfl⟩
  | cons b rest =>
    dsimp only [S1] at h
    cases hx : lex1 adv b rest with
    | none => rw [hx] at h; cases h; exact .inr (.inr (.inr rfl))
    | some tn =>
      obtain ⟨ty, n⟩ := tn
      rw [hx] at h
      cases h
      rcases (lex1_spec hx).2.2.2 with ⟨hp, rfl⟩ | hty
      · exact .inr (.inl ⟨b, rest, _, rfl, hp, rfl⟩)
      · exact .inr (.inr (.inl ⟨_, _, (List.take_append_drop _ _).symm, rfl, hty⟩))

end HclModel.Json.Proofs
