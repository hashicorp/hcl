import HclModel.Expr.Rel
import Proofs.ValueBasics
/-!
Value-level lemmas for C05 (unknown values): `conc` ignores flags; `whollyKnown` on lists and fields;
`unmarkDeep` changes nothing that ignores flags.
-/
namespace HclModel.Proofs.Unk
open Val

theorem tyBeqList_refl : ∀ as : List Ty, Ty.beqList as as = true := Ty.beqList_refl
theorem tyBeqFields_refl : ∀ as : List (String × Ty), Ty.beqFields as as = true := Ty.beqFields_refl
theorem tyBeqList_eq : ∀ as bs : List Ty, Ty.beqList as bs = true → as = bs := Ty.beqList_eq
theorem tyBeqFields_eq : ∀ as bs : List (String × Ty), Ty.beqFields as bs = true → as = bs := Ty.beqFields_eq

@[simp] theorem isNull_withFl (v : Val) (f : Fl) : (v.withFl f).isNull = v.isNull := Proofs.isNull_withFl v f
@[simp] theorem isKnown_withFl (v : Val) (f : Fl) : (v.withFl f).isKnown = v.isKnown := Proofs.isKnown_withFl v f
@[simp] theorem unmark_fst (v : Val) : v.unmark.1 = v.setFl v.fl.unmark := rfl
@[simp] theorem unmark_snd (v : Val) : v.unmark.2 = v.fl := rfl

theorem conc_setFl_right (v a : Val) (f : Fl) : conc v (a.setFl f) = conc v a := by
  cases a <;> cases v <;> rfl
theorem conc_setFl_left (v a : Val) (f : Fl) : conc (v.setFl f) a = conc v a := by
  cases a <;> cases v <;> rfl
@[simp] theorem conc_setFl (v a : Val) (f g : Fl) : conc (v.setFl f) (a.setFl g) = conc v a := by
  rw [conc_setFl_right, conc_setFl_left]
@[simp] theorem conc_withFl (v a : Val) (f g : Fl) : conc (v.withFl f) (a.withFl g) = conc v a := by
  simp [withFl]
@[simp] theorem conc_withFl_left (v a : Val) (f : Fl) : conc (v.withFl f) a = conc v a := by
  simp [withFl, conc_setFl_left]
@[simp] theorem conc_withFl_right (v a : Val) (f : Fl) : conc v (a.withFl f) = conc v a := by
  simp [withFl, conc_setFl_right]

theorem isKnown_of_whollyKnown {v : Val} (h : v.whollyKnown = true) : v.isKnown = true := by
  cases v <;> simp [whollyKnown, isKnown] at h ⊢

theorem whollyKnown_of_prim {v : Val} (hk : v.isKnown = true) (ht : v.typeOf.isPrim = true) :
    whollyKnown v = true := by
  cases v <;> simp_all [isKnown, typeOf, Ty.isPrim, whollyKnown]

theorem whollyKnownList_mem : ∀ {xs : List Val}, whollyKnownList xs = true → ∀ x ∈ xs, whollyKnown x = true
  | [], _, x, hx => by simp at hx
  | y :: ys, h, x, hx => by
    simp only [whollyKnownList, Bool.and_eq_true] at h
    rcases List.mem_cons.mp hx with rfl | hx
    · exact h.1
    · exact whollyKnownList_mem h.2 x hx

theorem whollyKnownList_of_mem : ∀ {xs : List Val}, (∀ x ∈ xs, whollyKnown x = true) → whollyKnownList xs = true
  | [], _ => rfl
  | y :: ys, h => by
    simp only [whollyKnownList, Bool.and_eq_true]
    exact ⟨h y (by simp), whollyKnownList_of_mem fun x hx => h x (by simp [hx])⟩

theorem whollyKnownFields_lookup : ∀ {kvs : List (String × Val)}, whollyKnownFields kvs = true →
    ∀ {k x}, lookupKey k kvs = some x → whollyKnown x = true
  | [], _, k, x, hx => by simp [lookupKey] at hx
  | (k', y) :: ys, h, k, x, hx => by
    simp only [whollyKnownFields, Bool.and_eq_true] at h
    simp only [lookupKey] at hx
    split at hx
    · cases hx; exact h.1
    · exact whollyKnownFields_lookup h.2 hx

theorem whollyKnownFields_of_mem : ∀ {kvs : List (String × Val)}, (∀ p ∈ kvs, whollyKnown p.2 = true) →
    whollyKnownFields kvs = true
  | [], _ => rfl
  | (k, y) :: ys, h => by
    simp only [whollyKnownFields, Bool.and_eq_true]
    exact ⟨h (k, y) (by simp), whollyKnownFields_of_mem fun x hx => h x (by simp [hx])⟩

theorem whollyKnownFields_mem : ∀ {kvs : List (String × Val)}, whollyKnownFields kvs = true →
    ∀ p ∈ kvs, whollyKnown p.2 = true
  | [], _, x, hx => by simp at hx
  | (k, y) :: ys, h, x, hx => by
    simp only [whollyKnownFields, Bool.and_eq_true] at h
    rcases List.mem_cons.mp hx with rfl | hx
    · exact h.1
    · exact whollyKnownFields_mem h.2 x hx

/- `unmarkDeep` changes flags only, and neither `whollyKnown` nor `typeOf` looks at a flag: both see a value
   through its erasure `er`. -/
theorem whollyKnown_unmarkDeep : ∀ v : Val, whollyKnown (unmarkDeep v) = whollyKnown v := fun v => by
  rw [← whollyKnown_er (unmarkDeep v), er_unmarkDeep, whollyKnown_er]
theorem whollyKnownList_unmarkDeep : ∀ xs : List Val, whollyKnownList (unmarkDeepList xs) = whollyKnownList xs :=
  fun xs => by rw [← whollyKnownList_er (unmarkDeepList xs), erL_unmarkDeep, whollyKnownList_er]
theorem whollyKnownFields_unmarkDeep : ∀ xs : List (String × Val),
    whollyKnownFields (unmarkDeepFields xs) = whollyKnownFields xs :=
  fun xs => by rw [← whollyKnownFields_er (unmarkDeepFields xs), erF_unmarkDeep, whollyKnownFields_er]

theorem typeOf_unmarkDeep : ∀ v : Val, typeOf (unmarkDeep v) = typeOf v := fun v => by
  rw [← typeOf_er (unmarkDeep v), er_unmarkDeep, typeOf_er]
theorem typeOfList_unmarkDeep : ∀ xs : List Val, typeOfList (unmarkDeepList xs) = typeOfList xs :=
  fun xs => by rw [← typeOfList_er (unmarkDeepList xs), erL_unmarkDeep, typeOfList_er]
theorem typeOfFields_unmarkDeep : ∀ xs : List (String × Val),
    typeOfFields (unmarkDeepFields xs) = typeOfFields xs :=
  fun xs => by rw [← typeOfFields_er (unmarkDeepFields xs), erF_unmarkDeep, typeOfFields_er]

@[simp] theorem isNull_unmarkDeep (v : Val) : (unmarkDeep v).isNull = v.isNull := by
  rw [← isNull_er (unmarkDeep v), er_unmarkDeep, isNull_er]
@[simp] theorem isKnown_unmarkDeep (v : Val) : (unmarkDeep v).isKnown = v.isKnown := by
  rw [← isKnown_er (unmarkDeep v), er_unmarkDeep, isKnown_er]

end HclModel.Proofs.Unk
