import Proofs.GohclAttr
import Proofs.GohclSchema
import Proofs.GohclEqns
import Proofs.BodyNative
/-!
C16: the struct round trip.  `BlockRT fuel sty` = a value of `sty`, encoded as a block and decoded with `fuel`,
is itself.  `fieldRT` is one field, `fieldsRT` the induction over the fields of one struct, `contentRT` the step
through `Content` (`Proofs/BodyNative.lean`), `blockRT` the induction over the nesting depth.
-/
namespace HclModel.Gohcl.Proofs
open HclModel HclModel.Body HclModel.Body.Proofs

def BlockRT (fuel : Nat) (sty : STy) : Prop :=
  ∀ (type : String) (s : SVal), s.ok sty = true →
    ∃ blk, encodeBlock type sty s = some blk ∧ decodeBlock fuel sty blk = some s

theorem fromCty_ptr (t : GTy) (x : GVal) (c : Val) (hp : noPtr t = true) (ht : hasTy t x = true)
    (hc : toCty t x = some c) :
    fromCty (.ptr t) c = some (.ptr (some x)) := by
  have h := fromCty_toCty t x c hp ht hc
  cases t with
  | str => cases x <;> simp [toCty] at hc; subst hc; simp [fromCty]
  | int =>
    cases x <;> simp [toCty] at hc; subst hc
    simp only [hasTy, decide_eq_true_eq] at ht
    simp [fromCty, ht]
  | bool => cases x <;> simp [toCty] at hc; subst hc; simp [fromCty]
  | slice t' => rw [fromCty, h] <;> first | rfl | (intro _ _ _ h'; cases h')
  | map t' => rw [fromCty, h] <;> first | rfl | (intro _ _ _ h'; cases h')
  | ptr t' => simp [noPtr] at hp

theorem noPtr_of_noInnerPtr {t : GTy} (h : noInnerPtr t = true) (hn : isPtr t = false) : noPtr t = true := by
  cases t <;> simp_all [noInnerPtr, noPtr, isPtr]

theorem attrRT (name : String) (t : GTy) (v : GVal) (hw : noInnerPtr t = true) (ht : hasTy t v = true) :
    ∃ a, encAttr name t v = some a ∧
      ((a = [] ∧ isPtr t = true ∧ v = zeroOf t) ∨
       ∃ c, a = [(name, c)] ∧ decodeExpr t (reparse c) = some v) := by
  by_cases hp : isPtr t = true
  · cases t with
    | ptr t' =>
      cases v with
      | ptr o =>
        cases o with
        | none => exact ⟨[], rfl, Or.inl ⟨rfl, rfl, rfl⟩⟩
        | some x =>
          simp only [hasTy] at ht
          simp only [noInnerPtr] at hw
          obtain ⟨c, hc⟩ := Option.isSome_iff_exists.1 (toCty_isSome t' x ht)
          refine ⟨[(name, c)], by cases t' <;> simp_all [encAttr, noPtr], Or.inr ⟨c, rfl, ?_⟩⟩
          simp only [decodeExpr, ctyTy, convert_reparse t' x c hc, fromCty_ptr t' x c hw ht hc]
      | _ => simp [hasTy] at ht
    | _ => simp [isPtr] at hp
  · have hp' : isPtr t = false := by simpa using hp
    have hnp := noPtr_of_noInnerPtr hw hp'
    obtain ⟨c, hc⟩ := Option.isSome_iff_exists.1 (toCty_isSome t v ht)
    refine ⟨[(name, c)], ?_, Or.inr ⟨c, rfl, attr_roundtrip t v c ht hnp hc⟩⟩
    cases t <;> simp_all [encAttr, isPtr]

theorem encodeBlock_shape {type : String} {sty : STy} {s : SVal} {blk : GBlock}
    (h : encodeBlock type sty s = some blk) (hok : s.ok sty = true) :
    blk.type = type ∧ blk.labels.length = (labelNames sty.fields).length := by
  obtain ⟨fields⟩ := sty
  obtain ⟨vals⟩ := s
  unfold encodeBlock at h
  split at h
  · simp only [Option.some.injEq] at h; subst h
    rw [ok_mk] at hok
    exact ⟨rfl, labelVals_length fields vals hok⟩
  · simp at h

theorem oneRT {fuel : Nat} {sty : STy} (hP : BlockRT fuel sty) (type : String) (s : SVal) (hok : s.ok sty = true) :
    ∃ blk, encodeBlock type sty s = some blk ∧
      (∀ b ∈ [blk], b.type = type ∧ b.labels.length = (labelNames sty.fields).length) ∧
      decodeBlock fuel sty (toB blk).body = some s := by
  obtain ⟨blk, he, hd⟩ := hP type s hok
  refine ⟨blk, he, fun b hb => ?_, hd⟩
  obtain rfl := List.mem_singleton.1 hb
  exact encodeBlock_shape he hok

theorem blocksRT {fuel : Nat} {sty : STy} (hP : BlockRT fuel sty) (type : String) :
    ∀ xs : List SVal, allOk sty xs = true →
      ∃ bl, encodeBlocks type sty xs = some bl ∧ decodeBlocks fuel sty ((bl.map toB).map (·.body)) = some xs ∧
        bl.length = xs.length ∧ ∀ b ∈ bl, b.type = type ∧ b.labels.length = (labelNames sty.fields).length
  | [], _ => ⟨[], by unfold encodeBlocks; rfl, by unfold decodeBlocks; rfl, rfl, nofun⟩
  | s :: rest, h => by
    rw [allOk_cons, Bool.and_eq_true] at h
    obtain ⟨blk, he, hall1, hd⟩ := oneRT hP type s h.1
    obtain ⟨bl, he', hd', hl, hall⟩ := blocksRT hP type rest h.2
    refine ⟨blk :: bl, ?_, ?_, congrArg (· + 1) hl, ?_⟩
    · unfold encodeBlocks; simp only [he, he']
    · unfold decodeBlocks; simp only [List.map_cons, hd, hd']
    · intro b hb
      rcases List.mem_cons.1 hb with rfl | hb
      · exact hall1 b List.mem_cons_self
      · exact hall b hb

/-- a non-empty list of blocks: the decoder sees a block and sets the field -/
theorem sliceRT {fuel : Nat} {sty : STy} (hP : BlockRT fuel sty) (type : String) (xs : List SVal)
    (hok : (!xs.isEmpty && allOk sty xs) = true) :
    ∃ bl, encodeBlocks type sty xs = some bl ∧
      (∀ b ∈ bl, b.type = type ∧ b.labels.length = (labelNames sty.fields).length) ∧
      ∃ b bs, bl.map toB = b :: bs ∧ decodeBlocks fuel sty ((b :: bs).map (·.body)) = some xs := by
  rw [Bool.and_eq_true] at hok
  obtain ⟨bl, he, hd, hl, hall⟩ := blocksRT hP type xs hok.2
  refine ⟨bl, he, hall, ?_⟩
  cases bl with
  | nil => cases xs <;> simp at hl hok
  | cons b bl => exact ⟨_, _, rfl, hd⟩

/-- For a pair of shape and value not listed, `fieldOk` computes to `false` and the case is closed by that. -/
theorem hereRT {fuel : Nat} {sty : STy} (hP : BlockRT fuel sty) (type : String) : ∀ (shape : Shape) (v : FVal),
    fieldOk (.block type shape sty) v = true →
    ∃ bl, encHere type shape sty v = some bl ∧
      (∀ b ∈ bl, b.type = type ∧ b.labels.length = (labelNames sty.fields).length) ∧
      decShape fuel shape sty (bl.map toB) = some v
  | .one, .one s, hok | .ptr, .ptr (some s), hok => by
    obtain ⟨blk, he, hall, hd⟩ := oneRT hP type s hok
    exact ⟨[blk], congrArg (Option.map _) he, hall, congrArg (Option.map _) hd⟩
  | .ptr, .ptr none, _ | .slice, .slice none, _ | .slicePtr, .slicePtr none, _ => ⟨[], rfl, nofun, rfl⟩
  | .slice, .slice (some xs), hok | .slicePtr, .slicePtr (some xs), hok => by
    obtain ⟨bl, he, hall, b, bs, e, hd⟩ := sliceRT hP type xs hok
    exact ⟨bl, he, hall, e ▸ congrArg (Option.map _) hd⟩

/-- the labels handed to `decodeFields` are those of the value, or there are none and the value's are empty -/
def LabelsFit (labels vals : List String) : Prop :=
  labels = vals ∨ (labels = [] ∧ ∀ s ∈ vals, s = "")

theorem findAttr_eq_none {α : Type} {n : String} {l : List (String × α)} (h : n ∉ l.map (·.1)) :
    findAttr n l = none :=
  (findAttr_eq_none_iff n l).2 fun p hp e => h (List.mem_map.2 ⟨p, hp, e⟩)

theorem filter_type_self {bl : List GBlock} {type : String} (h : ∀ b ∈ bl, b.type = type) :
    bl.filter (·.type == type) = bl :=
  List.filter_eq_self.2 fun b hb => by simp [h b hb]

theorem filter_type_other {bl : List GBlock} {t : String} (h : ∀ b ∈ bl, b.type ≠ t) :
    bl.filter (·.type == t) = [] :=
  List.filter_eq_nil_iff.2 fun b hb => by simp [h b hb]

/-- One field: what it contributes to the body, and that the decoder reads the value back from any content
    that agrees with the contribution on the field's own name. -/
theorem fieldRT (fuel : Nat) (IH : ∀ sty : STy, sty.wf = true → sty.depth ≤ fuel → BlockRT fuel sty)
    (f : Field) (v : FVal) (hok : fieldOk f v = true) (hwf : fieldWf f = true) (hdep : fieldDepth f ≤ fuel) :
    ∃ a b, encField f v = some (a, b) ∧
      (a.map (·.1)).Sublist (attrNames [f]) ∧
      (∀ s ∈ attrSchemas [f], s.required = true → (findAttr s.name a).isSome = true) ∧
      (∀ blk ∈ b, ∃ sh sty, f = .block blk.type sh sty ∧ blk.labels.length = (labelNames sty.fields).length) ∧
      ∀ (c : Content Val GBlock) (labels rest : List String),
        (∀ n ∈ attrNames [f], findAttr n c.attrs = findAttr n a) →
        (∀ t ∈ blockTypes [f], c.blocks.filter (·.type == t) = b.map toB) →
        LabelsFit labels (labelOf f v ++ rest) →
        decField fuel f c labels = some v ∧ LabelsFit (restLabels f labels) rest := by
  cases f with
  | attr name o t =>
    cases v with
    | attr g =>
      obtain ⟨a, hea, hcase⟩ := attrRT name t g hwf hok
      refine ⟨a, [], by simp only [encField, hea, Option.map_some], ?_, ?_, nofun, ?_⟩
      · rcases hcase with ⟨rfl, -, -⟩ | ⟨c, rfl, -⟩
        · exact List.nil_sublist _
        · exact List.Sublist.refl _
      · intro s hs hr
        obtain rfl := List.mem_singleton.1 hs
        rcases hcase with ⟨-, hp, -⟩ | ⟨c, rfl, -⟩
        · simp [hp] at hr
        · simp [findAttr]
      · intro c labels rest hA _ hL
        refine ⟨?_, hL⟩
        simp only [decField]
        rw [hA name List.mem_cons_self]
        rcases hcase with ⟨rfl, -, hz⟩ | ⟨c', rfl, hd⟩
        · rw [hz]; rfl
        · simp only [findAttr, beq_self_eq_true, if_true, hd, Option.map_some]
    | _ => exact absurd hok Bool.false_ne_true
  | label n =>
    cases v with
    | label s =>
      refine ⟨[], [], rfl, .slnil, nofun, nofun, ?_⟩
      intro c labels rest _ _ hL
      rcases hL with rfl | ⟨rfl, hb⟩
      · exact ⟨rfl, Or.inl rfl⟩
      · exact ⟨by rw [hb s List.mem_cons_self]; rfl, Or.inr ⟨rfl, fun x hx => hb x (List.mem_cons_of_mem _ hx)⟩⟩
    | _ => exact absurd hok Bool.false_ne_true
  | block type shape sty =>
    obtain ⟨bl, heh, hall, hds⟩ := hereRT (IH sty hwf hdep) type shape v hok
    refine ⟨[], bl, by simp only [encField, heh, Option.map_some], .slnil, nofun, ?_, ?_⟩
    · intro blk hb
      obtain ⟨e, hl⟩ := hall blk hb
      exact ⟨shape, sty, by rw [e], hl⟩
    · intro c labels rest _ hB hL
      exact ⟨by simp only [decField]; rw [hB type List.mem_cons_self, hds], hL⟩

theorem fieldsRT (fuel : Nat) (IH : ∀ sty : STy, sty.wf = true → sty.depth ≤ fuel → BlockRT fuel sty) :
    ∀ (fs : List Field) (vs : List FVal), fieldsOk fs vs = true → fieldsWf fs = true → (names fs).Nodup →
      fieldsDepth fs ≤ fuel →
      ∃ as bs, encodeFields fs vs = some (as, bs) ∧
        (as.map (·.1)).Sublist (attrNames fs) ∧
        (∀ a ∈ attrSchemas fs, a.required = true → (findAttr a.name as).isSome = true) ∧
        (∀ b ∈ bs, ∃ sh sty, Field.block b.type sh sty ∈ fs ∧
          b.labels.length = (labelNames sty.fields).length) ∧
        ∀ (c : Content Val GBlock) (labels : List String),
          (∀ n ∈ attrNames fs, findAttr n c.attrs = findAttr n as) →
          (∀ t ∈ blockTypes fs, c.blocks.filter (·.type == t) = (bs.filter (·.type == t)).map toB) →
          LabelsFit labels (labelVals fs vs) →
          decodeFields fuel fs c labels = some vs
  | [], vs, hok, _, _, _ => by
    rw [fieldsOk_nil_left vs hok]
    exact ⟨[], [], encodeFields_nil, .slnil, nofun, nofun, fun c labels _ _ _ => decodeFields_nil fuel c labels⟩
  | f :: fs, [], hok, _, _, _ => by rw [fieldsOk_nil_right] at hok; exact absurd hok (by decide)
  | f :: fs, v :: vs, hok, hwf, hnd, hdep => by
    rw [fieldsOk_cons, Bool.and_eq_true] at hok
    rw [fieldsWf_cons, Bool.and_eq_true] at hwf
    rw [fieldsDepth_cons] at hdep
    obtain ⟨as', bs', henc, hsub, hreq, hblk, hdec⟩ := fieldsRT fuel IH fs vs hok.2 hwf.2
      (((List.sublist_cons_self f fs).filterMap fieldName).nodup hnd) (by omega)
    obtain ⟨a, b, hef, hsubf, hreqf, hblkf, hdecf⟩ := fieldRT fuel IH f v hok.1 hwf.1 (by omega)
    -- what `f` contributes carries its name, which no other field has: in the body the two parts do not mix
    have ha : ∀ n ∈ attrNames fs, findAttr n a = none := fun n hn => findAttr_eq_none fun hm =>
      not_mem_names hnd (fieldName_of_attrName (hsubf.subset hm)) ((attrNames_sublist fs).subset hn)
    have ha' : ∀ n ∈ attrNames [f], findAttr n as' = none := fun n hn => findAttr_eq_none fun hm =>
      not_mem_names hnd (fieldName_of_attrName hn) ((attrNames_sublist fs).subset (hsub.subset hm))
    have hb : ∀ t ∈ blockTypes fs, b.filter (·.type == t) = [] := fun t ht =>
      filter_type_other fun blk hm e => by
        obtain ⟨sh, sty, rfl, -⟩ := hblkf blk hm
        exact not_mem_names hnd (congrArg some e) ((blockTypes_sublist fs).subset ht)
    have hb' : ∀ t ∈ blockTypes [f], b.filter (·.type == t) = b ∧ bs'.filter (·.type == t) = [] := fun t ht =>
      ⟨filter_type_self fun blk hm => by
        obtain ⟨sh, sty, rfl, -⟩ := hblkf blk hm
        exact Option.some.inj (fieldName_of_blockType ht),
      filter_type_other fun blk hm e => by
        obtain ⟨sh, sty, hf, -⟩ := hblk blk hm
        exact not_mem_names hnd (fieldName_of_blockType ht)
          (e ▸ (blockTypes_sublist fs).subset (mem_blockTypes_of_field hf))⟩
    refine ⟨a ++ as', b ++ bs', ?_, ?_, ?_, ?_, ?_⟩
    · rw [encodeFields_cons, henc, hef]
    · rw [List.map_append, attrNames_cons]; exact hsubf.append hsub
    · intro s hs hr
      rw [attrSchemas_cons, List.mem_append] at hs
      rw [findAttr_append, Option.isSome_or, Bool.or_eq_true]
      exact hs.imp (hreqf s · hr) (hreq s · hr)
    · intro blk hm
      rcases List.mem_append.1 hm with hm | hm
      · obtain ⟨sh, sty, e, hl⟩ := hblkf blk hm
        exact ⟨sh, sty, e ▸ List.mem_cons_self, hl⟩
      · obtain ⟨sh, sty, hf, hl⟩ := hblk blk hm
        exact ⟨sh, sty, List.mem_cons_of_mem _ hf, hl⟩
    · intro c labels hA hB hL
      rw [labelVals_cons] at hL
      rw [attrNames_cons] at hA
      rw [blockTypes_cons] at hB
      obtain ⟨h1, hL'⟩ := hdecf c labels _
        (fun n hn => by rw [hA n (List.mem_append_left _ hn), findAttr_append, ha' n hn, Option.or_none])
        (fun t ht => by
          rw [hB t (List.mem_append_left _ ht), List.filter_append, (hb' t ht).1, (hb' t ht).2, List.append_nil])
        hL
      rw [decodeFields_cons, h1, hdec c _
        (fun n hn => by rw [hA n (List.mem_append_right _ hn), findAttr_append, ha n hn, Option.none_or])
        (fun t ht => by rw [hB t (List.mem_append_right _ ht), List.filter_append, hb t ht, List.nil_append])
        hL']

theorem contentRT {fields : List Field} (hnd : (names fields).Nodup) {as : List (String × Val)} {bs : List GBlock}
    (hsub : (as.map (·.1)).Sublist (attrNames fields))
    (hreq : ∀ a ∈ attrSchemas fields, a.required = true → (findAttr a.name as).isSome = true)
    (hblk : ∀ b ∈ bs, ∃ sh sty, Field.block b.type sh sty ∈ fields ∧
      b.labels.length = (labelNames sty.fields).length) :
    let r := (GBody.mk as bs).native.content (impliedSchema (.mk fields))
    r.2 = [] ∧ (∀ n ∈ attrNames fields, findAttr n r.1.attrs = findAttr n as) ∧ r.1.blocks = bs.map toB := by
  have hs := schema_nodup hnd
  have hfresh : (GBody.mk as bs).native.hiddenAttrs = [] ∧ (GBody.mk as bs).native.hiddenBlocks = [] ∧
      ((GBody.mk as bs).native.attrs.map (·.1)).Nodup :=
    ⟨rfl, rfl, (hsub.trans (attrNames_sublist fields)).nodup hnd⟩
  have hw : ∀ blk ∈ (GBody.mk as bs).native.blocks,
      ∃ s, wanted (impliedSchema (.mk fields)) blk.type = some s ∧ blk.labels.length = s.labelCount := by
    intro blk hb
    rw [native_mk] at hb
    simp only [List.mem_map] at hb
    obtain ⟨b, hb, rfl⟩ := hb
    obtain ⟨sh, sty, hm, hl⟩ := hblk b hb
    exact ⟨_, wanted_of_field hnd hm, hl⟩
  refine ⟨?_, ?_, ?_⟩
  · rw [content_error_iff _ _ hfresh hs]
    refine ⟨?_, hw, ?_⟩
    · intro a ha hr
      exact hreq a ((mem_schema_attrs fields a).1 ha) hr
    · intro p hp
      exact (mem_attrNames_iff fields p.1).1 (hsub.subset (List.mem_map.2 ⟨p, hp, rfl⟩))
  · intro n hn
    rw [content_fst, partial_find, if_pos ⟨List.not_mem_nil, (mem_attrNames_iff fields n).1 hn⟩, native_mk]
  · rw [(content_exact _ _ hfresh hs).2]
    apply List.filter_eq_self.2
    intro blk hb
    obtain ⟨s, h1, h2⟩ := hw blk hb
    simp [h1, h2]

theorem structRT (fuel : Nat) (IH : ∀ sty : STy, sty.wf = true → sty.depth ≤ fuel → BlockRT fuel sty)
    (fields : List Field) (vals : List FVal) (hwf : STy.wf (.mk fields) = true) (hok : fieldsOk fields vals = true)
    (hd : (STy.mk fields).depth ≤ fuel + 1) :
    ∃ as bs, encodeFields fields vals = some (as, bs) ∧
      ((GBody.mk as bs).native.content (impliedSchema (.mk fields))).2 = [] ∧
      ∀ labels, LabelsFit labels (labelVals fields vals) →
        decodeFields fuel fields ((GBody.mk as bs).native.content (impliedSchema (.mk fields))).1 labels =
          some vals := by
  rw [depth_mk] at hd
  have hnd := names_nodup_of_wf hwf
  obtain ⟨as, bs, henc, hsub, hreq, hblk, hdec⟩ :=
    fieldsRT fuel IH fields vals hok (fieldsWf_of_wf hwf) hnd (by omega)
  obtain ⟨h1, h2, h3⟩ := contentRT hnd hsub hreq hblk
  exact ⟨as, bs, henc, h1, fun labels hL => hdec _ _ h2 (fun t _ => h3 ▸ List.filter_map) hL⟩

theorem blockRT : ∀ (fuel : Nat) (sty : STy), sty.wf = true → sty.depth ≤ fuel → BlockRT fuel sty
  | 0, sty, _, hd => by
    obtain ⟨fields⟩ := sty
    rw [depth_mk] at hd; omega
  | fuel + 1, sty, hwf, hd => by
    obtain ⟨fields⟩ := sty
    intro type s hok
    obtain ⟨vals⟩ := s
    obtain ⟨as, bs, henc, h1, hdec⟩ := structRT fuel (blockRT fuel) fields vals hwf hok hd
    refine ⟨.mk type (labelVals fields vals) (.mk as bs), ?_, ?_⟩
    · unfold encodeBlock; simp only [henc]
    · unfold decodeBlock
      simp only [GBlock.body, GBlock.labels, h1, List.isEmpty_nil, Bool.not_true, Bool.false_eq_true, if_false,
        STy.fields]
      rw [hdec _ (Or.inl rfl)]
      rfl

theorem bodyRT (fuel : Nat) (fields : List Field) (vals : List FVal) (hwf : STy.wf (.mk fields) = true)
    (hok : fieldsOk fields vals = true) (hd : (STy.mk fields).depth ≤ fuel)
    (hl : ∀ s ∈ labelVals fields vals, s = "") :
    ∃ b, encodeBody (.mk fields) (.mk vals) = some b ∧ decodeBody fuel (.mk fields) b = some (.mk vals) := by
  obtain ⟨fuel, rfl⟩ : ∃ k, fuel = k + 1 := ⟨fuel - 1, by rw [depth_mk] at hd; omega⟩
  obtain ⟨as, bs, henc, h1, hdec⟩ := structRT fuel (blockRT fuel) fields vals hwf hok hd
  refine ⟨.mk as bs, ?_, ?_⟩
  · simp only [encodeBody, STy.fields, SVal.fields, henc, Option.map_some]
  · unfold decodeBody
    simp only [h1, List.isEmpty_nil, Bool.not_true, Bool.false_eq_true, if_false, STy.fields]
    rw [hdec _ (Or.inr ⟨rfl, hl⟩)]
    rfl

theorem labelOf_decField {fuel : Nat} {f : Field} {c : Content Val GBlock} {v : FVal}
    (h : decField fuel f c [] = some v) : ∀ s ∈ labelOf f v, s = "" := by
  cases f with
  | label n => obtain rfl := Option.some.inj h; exact fun s hs => List.mem_singleton.1 hs
  | _ => exact nofun

theorem decodeFields_nolabels (fuel : Nat) (c : Content Val GBlock) : ∀ (fs : List Field) (vs : List FVal),
    decodeFields fuel fs c [] = some vs → ∀ s ∈ labelVals fs vs, s = ""
  | [], vs, h => by
    rw [decodeFields_nil, Option.some.injEq] at h; subst h; exact nofun
  | f :: fs, vs, h => by
    rw [decodeFields_cons, show restLabels f [] = [] by cases f <;> rfl] at h
    split at h
    · rename_i v rest hv hrest
      obtain rfl := Option.some.inj h
      rw [labelVals_cons]
      intro s hs
      exact (List.mem_append.1 hs).elim (labelOf_decField hv s) (decodeFields_nolabels fuel c fs rest hrest s)
    · cases h

theorem decodeBody_labels_blank (fuel : Nat) (fields : List Field) (vals : List FVal) (b : GBody)
    (h : decodeBody fuel (.mk fields) b = some (.mk vals)) : ∀ s ∈ labelVals fields vals, s = "" := by
  unfold decodeBody at h
  split at h
  · simp at h
  · simp only at h
    split at h
    · simp at h
    · simp only [Option.map_eq_some_iff, SVal.mk.injEq] at h
      obtain ⟨vs, hvs, rfl⟩ := h
      exact decodeFields_nolabels _ _ _ _ hvs

end HclModel.Gohcl.Proofs
