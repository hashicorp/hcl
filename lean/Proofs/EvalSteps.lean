import HclModel.Expr.Eval
/-!
`eval`, constructor by constructor, in terms of named functions: the loop bodies that `eval` writes as
anonymous closures are given names here (with the sub-evaluations abstracted as function arguments), so that
the lemmas about them can be stated and proved separately from the recursion over `Expr`.
Every equation holds by unfolding `eval` once (`eval_unfold`) and computing.
-/
namespace HclModel.Proofs
open Val

set_option smartUnfolding false in
/-- `eval._sunfold` is the body of `eval` with the recursive calls folded.  Lean fails to generate the
    equation lemmas of `eval`, so `unfold eval` and `simp [eval]` are not available; this is the one
    unfolding step, checked through `brecOn` (smart unfolding off). -/
theorem eval_unfold (F : Cx) (ρ : Env) (e : Expr) : eval F ρ e = eval._sunfold F ρ e := by
  cases e with
  | forTuple kv vv coll val cond => cases cond <;> rfl
  | forObject kv vv coll key val cond g => cases cond <;> rfl
  | call fn args ex => cases ex <;> rfl
  | _ => rfl

def getAttrOut (o : Out) (name : String) : Out :=
  let (v, ds) := o
  if hasErrors ds then (Val.dynVal, ds)
  else let (r, ds') := getAttr v name; (r, ds ++ ds')

def indexOut (keepKeyMarks : Bool) (co ko : Out) : Out :=
  let (cv, cd) := co
  let (kv, kd) := ko
  let (r, ds') := index keepKeyMarks cv kv
  (r, cd ++ kd ++ ds')

def objectOut (r : ForSt × Bool) : Out :=
  let (st, known) := r
  if !known then (Val.dynVal, st.diags)
  else (Val.object st.marks (st.kvs.map fun (k, vs) => (k, vs.headD Val.dynVal)), st.diags)

def itemStep (ko vo : Out) (r : ForSt × Bool) : ForSt × Bool :=
  let (k, kd) := ko
  let (v, vd) := vo
  let (st, known) := r
  let pre := kd ++ vd
  if hasErrors kd then ({ st with diags := pre ++ st.diags }, false)
  else if k.isNull then ({ st with diags := pre ++ [⟨"Null value as key", []⟩] ++ st.diags }, false)
  else
    let (k, km) := k.unmark
    match tryConvert k .str with
    | .error d => ({ st with diags := pre ++ [if d.isUnsupported then d else ⟨"Incorrect key type", []⟩] ++ st.diags, marks := st.marks.join km }, false)
    | .ok ks =>
      match ks with
      | .str _ s =>
        let kvs := if (lookupKey s st.kvs).isSome then st.kvs else groupInsert s v st.kvs
        ({ st with diags := pre ++ st.diags, marks := st.marks.join km, kvs := kvs }, known)
      | _ => ({ st with diags := pre ++ st.diags, marks := st.marks.join km }, false)

/-- the unconditional part of the tuple-`for` body; `ev k v` evaluates the value expression with the iterators bound -/
def tupStep (ev : Val → Val → Out) (st : ForSt) (kv : Val × Val) : ForSt :=
  { st with diags := st.diags ++ (ev kv.1 kv.2).2, vals := st.vals ++ [(ev kv.1 kv.2).1] }

/-- the body of the `for` loop, tuple form; `ec` evaluates the condition -/
def forTupleStep (ev : Val → Val → Out) (ec : Option (Val → Val → Out)) (st : ForSt) (kv : Val × Val) : ForSt :=
  match ec with
  | none => tupStep ev st kv
  | some ec =>
    let (inc, id) := ec kv.1 kv.2
    let st := { st with diags := st.diags ++ id }
    if inc.isNull then
      { st with diags := if st.known then st.diags ++ [⟨"Invalid 'for' condition: null", []⟩] else st.diags, known := false }
    else
      let st := { st with marks := st.marks.join inc.fl }
      if !inc.isKnown then { st with known := false }
      else match tryConvert inc .bool with
        | .error d =>
          { st with diags := if st.known then st.diags ++ [if d.isUnsupported then d else ⟨"Invalid 'for' condition", []⟩] else st.diags, known := false }
        | .ok (.bool _ false) => st
        | .ok _ => tupStep ev st kv

/-- the unconditional part of the object-`for` body -/
def objStep (group : Bool) (ek ev : Val → Val → Out) (st : ForSt) (kv : Val × Val) : ForSt :=
  let kr := (ek kv.1 kv.2).1
  let st : ForSt := { st with diags := st.diags ++ (ek kv.1 kv.2).2 }
  if kr.isNull then
    { st with diags := if st.known then st.diags ++ [⟨"Invalid object key: null", []⟩] else st.diags, known := false }
  else
    let st : ForSt := { st with marks := st.marks.join kr.fl }
    if !kr.isKnown then { st with known := false }
    else match tryConvert kr .str with
      | .error d =>
        { st with diags := if st.known then st.diags ++ [if d.isUnsupported then d else ⟨"Invalid object key", []⟩] else st.diags, known := false }
      | .ok ks =>
        match ks.unmark.1 with
        | .str kf k =>
          let v := (ev kv.1 kv.2).1
          let st : ForSt := { st with diags := st.diags ++ (ev kv.1 kv.2).2 }
          if group then { st with kvs := groupInsert k v st.kvs }
          else if (lookupKey k st.kvs).isSome then
            { st with diags := st.diags ++ [⟨"Duplicate object key", if st.marks.m then [] else [.str kf k]⟩] }
          else { st with kvs := groupInsert k v st.kvs }
        | _ => { st with known := false }

def forObjectStep (group : Bool) (ek ev : Val → Val → Out) (ec : Option (Val → Val → Out)) (st : ForSt) (kv : Val × Val) : ForSt :=
  match ec with
  | none => objStep group ek ev st kv
  | some ec =>
    let (inc, id) := ec kv.1 kv.2
    let st := { st with diags := st.diags ++ id }
    if inc.isNull then
      { st with diags := if st.known then st.diags ++ [⟨"Invalid 'for' condition: null", []⟩] else st.diags, known := false }
    else
      let st := { st with marks := st.marks.join inc.fl }
      match tryConvert inc .bool with
      | .error d =>
        { st with diags := if st.known then st.diags ++ [if d.isUnsupported then d else ⟨"Invalid 'for' condition", []⟩] else st.diags, known := false }
      | .ok b =>
        if !b.isKnown then { st with known := false }
        else match b with
          | .bool _ false => st
          | _ => objStep group ek ev st kv

/-- everything in `ForExpr.Value` around the loop; `fin` builds the result from the final state -/
def forOut (co : Out) (probe : Option Out) (stepf : ForSt → Val × Val → ForSt) (fin : ForSt → Out) : Out :=
  let (cv, cd) := co
  if cv.isNull then (Val.dynVal, cd ++ [⟨"Iteration over null value", []⟩])
  else if cv.typeOf == .dyn then (Val.dynVal, cd)
  else
    let (cv, cm) := cv.unmark
    if !canIterate cv.typeOf then (Val.dynVal, cd ++ [⟨"Iteration over non-iterable value", []⟩])
    else
      let probe : Option (List Diag × Fl × Bool) := probe.map probeCond
      let pd := (probe.map (·.1)).getD []
      let pm := (probe.map (·.2.1)).getD Fl.none
      let pstop := (probe.map (·.2.2)).getD false
      if pstop then (Val.dynVal, cd ++ pd)
      else
        match elements cv with
        | none => (Val.dynVal.withFl (cm.join ⟨pm.m, pm.g⟩), cd ++ pd)
        | some els => fin (els.foldl stepf ({ diags := cd ++ pd, marks := cm } : ForSt))

def forTupleFin (st : ForSt) : Out :=
  if !st.known then (Val.dynVal.withFl st.marks, st.diags)
  else (Val.tuple st.marks st.vals, st.diags)

def forObjectFin (group : Bool) (st : ForSt) : Out :=
  if !st.known then (Val.dynVal.withFl st.marks, st.diags)
  else if group then
    (Val.object st.marks (st.kvs.map fun (k, vs) => (k, Val.tuple Fl.none vs)), st.diags)
  else (Val.object st.marks (st.kvs.map fun (k, vs) => (k, vs.headD Val.dynVal)), st.diags)

def splatOut (keepDropped : Bool) (so : Out) (each : Val → Out) : Out :=
  let (sv, sd) := so
  if hasErrors sd then (Val.dynVal, sd)
  else
    let sty := sv.typeOf
    let autoUp : Bool := match sty with | .tuple _ | .list _ => false | _ => true
    if sv.isNull then
      if autoUp then ((Val.tuple Fl.none []).withFl sv.fl, sd) else (Val.dynVal, sd ++ [⟨"Splat of null value", []⟩])
    else if sty == .dyn then (Val.dynVal.withFl sv.fl, sd)
    else
      let upgradedUnknown := autoUp && !sv.isKnown
      let sv : Val := if autoUp then (Val.tuple Fl.none [sv]).withFl sv.fl else sv
      let eachTy (t : Ty) : Ty × List Diag :=
        let (v, ds) := each (Val.unk Fl.none t)
        (v.typeOf, ds)
      let resultTy : Ty × List Diag :=
        match sv.typeOf with
        | .list t => let (rt, ds) := eachTy t; (.list rt, ds)
        | .tuple ts =>
          let rs := ts.map eachTy
          (.tuple (rs.map (·.1)), rs.flatMap (·.2))
        | _ => (.dyn, [])
      if !sv.isKnown then
        ((Val.unk Fl.none resultTy.1).withFl sv.fl, sd ++ resultTy.2)
      else
        let (sv, sm) := sv.unmark
        let items : List Val := match sv with | .list _ _ xs => xs | .tuple _ xs => xs | _ => []
        let rs := items.map fun it => each it
        let ds := sd ++ rs.flatMap (·.2)
        let vals := rs.map (·.1)
        let ok := rs.all fun r => !hasErrors r.2
        if upgradedUnknown then (Val.dynVal.withFl sm, ds)
        else if !ok then ((Val.unk Fl.none resultTy.1).withFl sm, if keepDropped then ds ++ resultTy.2 else ds)
        else match sv with
          | .list _ _ _ =>
            (match vals with
             | [] => (match resultTy.1 with
                | .list t => ((Val.list Fl.none t []).withFl sm, ds ++ resultTy.2)
                | _ => unsupportedOut "splat empty list")
             | v :: vs =>
               if vs.all (fun w => w.typeOf == v.typeOf) then ((Val.list Fl.none v.typeOf vals).withFl sm, ds)
               else unsupportedOut "splat: list elements of different types")
          | _ => ((Val.tuple Fl.none vals).withFl sm, ds)

abbrev TSt := List Diag × Bool × Fl × String

def tmplStep (st : TSt) (o : Out) : TSt :=
  let (ds, known, ms, buf) := st
  let (pv, pd) := o
  let ds := ds ++ pd
  if pv.isNull then (ds ++ [⟨"Invalid template interpolation value: null", []⟩], known, ms, buf)
  else
    let (uv, pm) := pv.unmark
    let ms := ms.join pm
    if !pv.isKnown then (ds, false, ms, buf)
    else match tryConvert uv .str with
      | .error d => (ds ++ [if d.isUnsupported then d else ⟨"Invalid template interpolation value", []⟩], known, ms, buf)
      | .ok (.str _ s) => (ds, known, ms, if known && !hasErrors ds then buf ++ s else buf)
      | .ok _ => (ds, known, ms, buf)

def tmplOut (st : TSt) : Out :=
  let (ds, known, ms, buf) := st
  if known then (Val.str ms buf, ds) else (Val.unk ms .str, ds)

def tjoinOut (o : Out) : Out :=
  let (tv, ds) := o
  if tv.typeOf == .dyn then (Val.unk Fl.none .str, ds)
  else if !tv.isKnown then (Val.unk Fl.none .str, ds)
  else
    let (tv, tm) := tv.unmark
    match tv with
    | .tuple _ xs => tjoinLoop tm xs ds tm ""
    | _ => unsupportedOut "tjoin of non-tuple"

/-- the expansion of the final `...` argument of a call -/
def expandOut (eo : Out) : Except Out (List Val × List Diag) :=
  let (ev, ed) := eo
  if hasErrors ed then .error (Val.dynVal, ed)
  else if ev.typeOf == .dyn then
    (if ev.isNull then .error (Val.dynVal, ed ++ [⟨"Invalid expanding argument value: null", []⟩]) else .error (Val.dynVal, ed))
  else match ev.typeOf with
    | .tuple _ | .list _ =>
      if ev.isNull then .error (Val.dynVal, ed ++ [⟨"Invalid expanding argument value: null", []⟩])
      else if !ev.isKnown then .error (Val.dynVal, ed)
      else
        let (uv, em) := ev.unmark
        let xs : List Val := match uv with | .list _ _ xs => xs | .tuple _ xs => xs | _ => []
        .ok (xs.map fun x => x.withFl em, ed)
    | _ => .error (Val.dynVal, ed ++ [⟨"Invalid expanding argument value", []⟩])

/-- the expansion of the optional final argument of a call -/
def expandArg (eo : Option Out) : Except Out (List Val × List Diag) :=
  match eo with
  | none => .ok ([], [])
  | some o => expandOut o

def callOut (spec : FuncSpec) (expanded : Except Out (List Val × List Diag)) (outs : List Out) : Out :=
  match expanded with
  | .error o => o
  | .ok (extra, ed) =>
    let argVals := outs.map (·.1) ++ extra
    let n := argVals.length
    if n < spec.params.length then (Val.dynVal, ed ++ [⟨"Not enough function arguments", []⟩])
    else if spec.varParam.isNone && n > spec.params.length then (Val.dynVal, ed ++ [⟨"Too many function arguments", []⟩])
    else
      let (vals, cds) := convertArgs spec argVals spec.params
      let ds := ed ++ outs.flatMap (·.2) ++ cds
      if hasErrors ds then (Val.dynVal, ds)
      else match callFunc spec vals with
        | .ok v => (v, ds)
        | .error (.fail _) => (Val.dynVal, ds ++ [⟨"Error in function call", []⟩])
        | .error (.unsupported w) => (Val.dynVal, ds ++ [⟨"UNSUPPORTED " ++ w, []⟩])

theorem eval_lit (F : Cx) (ρ : Env) (v : Val) : eval F ρ (.lit v) = (v, []) := rfl

theorem eval_var (F : Cx) (ρ : Env) (x : String) :
    eval F ρ (.var x) = match ρ.lookup x with | some v => (v, []) | none => errOut "Unknown variable" := by
  rw [eval_unfold]; unfold eval._sunfold; rfl

theorem eval_getAttr (F : Cx) (ρ : Env) (e : Expr) (name : String) :
    eval F ρ (.getAttr e name) = getAttrOut (eval F ρ e) name := by
  rw [eval_unfold]; unfold eval._sunfold; rfl

theorem eval_index (F : Cx) (ρ : Env) (e k : Expr) :
    eval F ρ (.index e k) = indexOut F.keepKeyMarks (eval F ρ e) (eval F ρ k) := by
  rw [eval_unfold]; unfold eval._sunfold; rfl

theorem eval_bin (F : Cx) (ρ : Env) (op : BinOp) (l r : Expr) :
    eval F ρ (.bin op l r) = evalBin F.keepDropped op (eval F ρ l) (eval F ρ r) := by
  rw [eval_unfold]; unfold eval._sunfold; rfl

theorem eval_un (F : Cx) (ρ : Env) (op : UnOp) (e : Expr) :
    eval F ρ (.un op e) = evalUn op (eval F ρ e) := by
  rw [eval_unfold]; unfold eval._sunfold; rfl

theorem eval_cond (F : Cx) (ρ : Env) (c t f : Expr) :
    eval F ρ (.cond c t f) = evalCond F.keepDropped (eval F ρ c) (eval F ρ t) (eval F ρ f) := by
  rw [eval_unfold]; unfold eval._sunfold; rfl

theorem eval_tuple (F : Cx) (ρ : Env) (es : List Expr) :
    eval F ρ (.tuple es) = (.tuple Fl.none (evalList F ρ es).1, (evalList F ρ es).2) := by
  rw [eval_unfold]; unfold eval._sunfold; rfl

theorem eval_object (F : Cx) (ρ : Env) (items : List (Expr × Expr)) :
    eval F ρ (.object items) = objectOut (evalItems F ρ items) := by
  rw [eval_unfold]; unfold eval._sunfold; rfl

theorem evalItems_cons (F : Cx) (ρ : Env) (ke ve : Expr) (rest : List (Expr × Expr)) :
    evalItems F ρ ((ke, ve) :: rest) = itemStep (eval F ρ ke) (eval F ρ ve) (evalItems F ρ rest) := by
  simp only [evalItems]; rfl

theorem evalList_cons (F : Cx) (ρ : Env) (e : Expr) (es : List Expr) :
    evalList F ρ (e :: es) = ((eval F ρ e).1 :: (evalList F ρ es).1, (eval F ρ e).2 ++ (evalList F ρ es).2) := by
  simp only [evalList]

theorem eval_forTuple (F : Cx) (ρ : Env) (kv vv : String) (coll val : Expr) (cond : Option Expr) :
    eval F ρ (.forTuple kv vv coll val cond) =
      forOut (eval F ρ coll) (cond.map fun ce => eval F (bindIter ρ kv vv Val.dynVal Val.dynVal) ce)
        (forTupleStep (fun k v => eval F (bindIter ρ kv vv k v) val)
          (cond.map fun ce k v => eval F (bindIter ρ kv vv k v) ce)) forTupleFin := by
  rw [eval_unfold]; cases cond <;> (unfold eval._sunfold; rfl)

theorem eval_forObject (F : Cx) (ρ : Env) (kv vv : String) (coll key val : Expr) (cond : Option Expr) (group : Bool) :
    eval F ρ (.forObject kv vv coll key val cond group) =
      forOut (eval F ρ coll) (cond.map fun ce => eval F (bindIter ρ kv vv Val.dynVal Val.dynVal) ce)
        (forObjectStep group (fun k v => eval F (bindIter ρ kv vv k v) key) (fun k v => eval F (bindIter ρ kv vv k v) val)
          (cond.map fun ce k v => eval F (bindIter ρ kv vv k v) ce)) (forObjectFin group) := by
  rw [eval_unfold]; cases cond <;> (unfold eval._sunfold; rfl)

theorem eval_splat (F : Cx) (ρ : Env) (anon : String) (src each : Expr) :
    eval F ρ (.splat anon src each) =
      splatOut F.keepDropped (eval F ρ src) (fun it => eval F ((anon, it) :: ρ) each) := by
  rw [eval_unfold]; unfold eval._sunfold; rfl

theorem eval_template (F : Cx) (ρ : Env) (parts : List Expr) :
    eval F ρ (.template parts) =
      tmplOut ((evalEach F ρ parts).foldl tmplStep (([] : List Diag), true, Fl.none, "")) := by
  rw [eval_unfold]; unfold eval._sunfold; rfl

theorem eval_tjoin (F : Cx) (ρ : Env) (t : Expr) :
    eval F ρ (.tjoin t) = tjoinOut (eval F ρ t) := by
  rw [eval_unfold]; unfold eval._sunfold; rfl

theorem eval_call (F : Cx) (ρ : Env) (fn : String) (args : List Expr) (expand : Option Expr) :
    eval F ρ (.call fn args expand) =
      match F.funcs fn with
      | none => errOut "Call to unknown function"
      | some spec => callOut spec (expandArg (expand.map (eval F ρ))) (evalEach F ρ args) := by
  rw [eval_unfold]; cases expand <;> (unfold eval._sunfold; rfl)

theorem evalEach_cons (F : Cx) (ρ : Env) (e : Expr) (es : List Expr) :
    evalEach F ρ (e :: es) = eval F ρ e :: evalEach F ρ es := by
  simp only [evalEach]

end HclModel.Proofs
