import Proofs.JBodyLevel
/-!
C03, one level: `JBodyV.partialContent` / `content` of the rendering of an admissible layout — attributes,
blocks, names used and errors in terms of the layout's properties.
-/
namespace HclModel.JBody.Proofs
open HclModel HclModel.Body HclModel.Body.Proofs

abbrev JAcc := List (String × JV) × List (Block JBodyV) × List String × List JErr

/-- the loop body of `JBodyV.partialContent`, a local `let` there, as a function lemmas can speak of -/
def jstep (hidden : List String) (s : Schema) (acc : JAcc) (p : String × JV) : JAcc :=
  if hidden.contains p.1 then acc
  else if s.attrs.any (·.name == p.1) then
    if acc.1.any (·.1 == p.1) then (acc.1, acc.2.1, acc.2.2.1, acc.2.2.2 ++ [.duplicateArgument p.1])
    else (acc.1 ++ [p], acc.2.1, p.1 :: acc.2.2.1, acc.2.2.2)
  else match wanted s p.1 with
    | some bs =>
      (acc.1, acc.2.1 ++ (unpackBlock bs.type bs.labelCount [] p.2).1, p.1 :: acc.2.2.1,
        acc.2.2.2 ++ (unpackBlock bs.type bs.labelCount [] p.2).2)
    | none => acc

/-- the state of `partialContent` after its loop -/
def jfold (b : JBodyV) (s : Schema) : JAcc :=
  (collectDeepAttrs b.val).1.foldl (jstep b.hidden s)
    ([], [], b.hidden, if (collectDeepAttrs b.val).2 then [JErr.incorrectType] else [])

theorem partialContent_eq (b : JBodyV) (s : Schema) :
    b.partialContent s =
      (⟨(jfold b s).1, (jfold b s).2.1⟩, ⟨b.val, (jfold b s).2.2.1⟩,
       (jfold b s).2.2.2 ++
        (s.attrs.filter fun as => as.required && !((jfold b s).1.any (·.1 == as.name))).map
          fun as => JErr.missingRequired as.name) := by
  rfl

theorem content_eq (b : JBodyV) (s : Schema) :
    b.content s =
      ((b.partialContent s).1,
       (b.partialContent s).2.2 ++ (if (collectDeepAttrs b.val).2 then [JErr.incorrectType] else []) ++
        ((collectDeepAttrs b.val).1.filter fun p =>
          p.1 != "//" && !(b.partialContent s).2.1.hidden.contains p.1).map fun p => JErr.extraneous p.1) := by
  rfl

section steps
variable (s : Schema) (acc : JAcc)

theorem jstep_attr (n : String) (v : JV) (h1 : s.attrs.any (·.name == n) = true)
    (h2 : acc.1.any (·.1 == n) = false) :
    jstep [] s acc (n, v) = (acc.1 ++ [(n, v)], acc.2.1, n :: acc.2.2.1, acc.2.2.2) := by
  simp [jstep, h1, h2]

theorem jstep_block (t : String) (v : JV) (bs : BlockSchema) (h1 : s.attrs.any (·.name == t) = false)
    (h2 : wanted s t = some bs) :
    jstep [] s acc (t, v) =
      (acc.1, acc.2.1 ++ (unpackBlock t bs.labelCount [] v).1, t :: acc.2.2.1,
        acc.2.2.2 ++ (unpackBlock t bs.labelCount [] v).2) := by
  have := (wanted_some h2).2
  simp [jstep, h1, h2, this]

end steps

def propName (p : PropL) : String := (renderProp p).1

/-- the name is used up by `partialContent` -/
def usedP (s : Schema) (p : PropL) : Bool :=
  s.attrs.any (·.name == propName p) || (wanted s (propName p)).isSome

theorem jstep_ignored (s : Schema) (acc : JAcc) (p : PropL) (h : usedP s p = false) :
    jstep [] s acc (renderProp p) = acc := by
  rw [usedP, propName, Bool.or_eq_false_iff, Option.isSome_eq_false_iff, Option.isNone_iff_eq_none] at h
  simp [jstep, h.1, h.2]

theorem usedP_attr {st : STree} {n : String} {v : JV} (hp : PropAdm st (.attr n v)) :
    usedP st.schema (.attr n v) = st.schema.attrs.any (·.name == n) := by
  simp only [usedP, propName, renderProp, wanted_isSome, (hp.attr n v rfl).2.1, Bool.or_false]

theorem usedP_blocks {st : STree} {t : String} {u : UnderL} (hp : PropAdm st (.blocks t u)) :
    usedP st.schema (.blocks t u) = (wanted st.schema t).isSome := by
  simp only [usedP, propName, renderProp, (hp.blocks t u rfl).2.1, Bool.false_or]

/-- the errors of `unpackBlock` for a block-type property the schema wants -/
def propErrs (s : Schema) : PropL → List JErr
  | .blocks t u => match wanted s t with
    | some bs => (unpackBlock t bs.labelCount [] (renderUnder u)).2
    | none => []
  | _ => []

def unpackErrs (s : Schema) (ps : List PropL) : List JErr := ps.flatMap (propErrs s)

theorem renderProps_names (ps : List PropL) : (renderProps ps).map (·.1) = ps.map propName := by
  rw [renderProps_map, List.map_map]; rfl

/-- one round of the loop of `partialContent`, on the rendering of an admissible property whose argument name
    is new to the arguments found so far -/
theorem jstep_rendered {st : STree} (hst : st.wf = true) {p : PropL} (hp : PropAdm st p) (acc : JAcc)
    (hnew : ∀ q ∈ propAttrs p, acc.1.any (·.1 == q.1) = false) :
    jstep [] st.schema acc (renderProp p) =
      (acc.1 ++ (propAttrs p).filter (fun q => st.schema.attrs.any (·.name == q.1)),
       acc.2.1 ++ ((propBlocks p).filter (fun fb => (wanted st.schema fb.1).isSome)).map toJ,
       (if usedP st.schema p then [propName p] else []) ++ acc.2.2.1,
       acc.2.2.2 ++ propErrs st.schema p) := by
  cases p with
  | comment v =>
    have hu : usedP st.schema (.comment v) = false := by
      simp only [usedP, propName, renderProp, wf_comment_attr hst, wf_comment_block hst]; rfl
    rw [jstep_ignored _ _ _ hu]
    simp [propAttrs, propBlocks, propErrs, hu]
  | attr n v =>
    have hu := usedP_attr hp
    cases hin : st.schema.attrs.any (·.name == n) with
    | true =>
      rw [renderProp, jstep_attr _ _ _ _ hin (hnew _ List.mem_cons_self)]
      simp [propAttrs, propBlocks, propErrs, hu, hin, propName, renderProp]
    | false =>
      rw [hin] at hu
      rw [jstep_ignored _ _ _ hu]
      simp [propAttrs, propBlocks, propErrs, hu, hin]
  | blocks t u =>
    have hu := usedP_blocks hp
    -- the blocks written under `t` all have type `t`
    have hf : (flatUnder t [] u).filter (fun fb => (wanted st.schema fb.1).isSome) =
        if (wanted st.schema t).isSome then flatUnder t [] u else [] := by
      split
      · rw [List.filter_eq_self]; intro fb hfb; rwa [flatUnder_type t [] u fb hfb]
      · rw [List.filter_eq_nil_iff]; intro fb hfb; rwa [flatUnder_type t [] u fb hfb]
    cases hw : wanted st.schema t with
    | none =>
      rw [hw] at hu
      rw [jstep_ignored _ _ _ hu]
      simp [propAttrs, propBlocks, propErrs, hu, hw, hf]
    | some bs =>
      obtain ⟨cst, _, _, hadmu⟩ := adm_block hst hw (hp.blocks t u rfl).2.2
      rw [renderProp, jstep_block _ _ _ _ bs (hp.blocks t u rfl).2.1 hw]
      simp [propAttrs, propBlocks, propErrs, hu, propName, renderProp, hw, hf,
        unpack_blocks cst t bs.labelCount [] u hadmu]

theorem fold_rendered (st : STree) (hst : st.wf = true) (ps : List PropL) (hP : ∀ p ∈ ps, PropAdm st p)
    (acc : JAcc) (hnd : ((acc.1 ++ denoteAttrs ps).map (·.1)).Nodup) :
    (renderProps ps).foldl (jstep [] st.schema) acc =
      (acc.1 ++ (denoteAttrs ps).filter (fun p => st.schema.attrs.any (·.name == p.1)),
       acc.2.1 ++ ((flatBlocks ps).filter (fun fb => (wanted st.schema fb.1).isSome)).map toJ,
       ((ps.filter (usedP st.schema)).map propName).reverse ++ acc.2.2.1,
       acc.2.2.2 ++ unpackErrs st.schema ps) := by
  induction ps generalizing acc with
  | nil => simp [renderProps, denoteAttrs, flatBlocks, unpackErrs]
  | cons p rest ih =>
    obtain ⟨hp, hrest⟩ := List.forall_mem_cons.1 hP
    rw [denoteAttrs_flatMap, List.flatMap_cons, ← denoteAttrs_flatMap] at hnd
    rw [renderProps_map, List.map_cons, List.foldl_cons, ← renderProps_map, jstep_rendered hst hp acc, ih hrest]
    · cases hu : usedP st.schema p <;> simp [denoteAttrs_flatMap, flatBlocks, unpackErrs, hu]
    · rw [← List.append_assoc] at hnd
      exact hnd.sublist ((((List.Sublist.refl _).append List.filter_sublist).append (List.Sublist.refl _)).map _)
    · simp only [List.any_eq_false, beq_iff_eq]
      rw [List.map_append] at hnd
      exact fun q hq a ha e =>
        (List.nodup_append.1 hnd).2.2 _ (List.mem_map_of_mem ha) _
          (List.mem_map_of_mem (List.mem_append_left _ hq)) e

section rendered
variable (st : STree) (L : BodyL) (hst : st.wf = true) (hL : admBody st L = true)
include hst hL

omit hst in
theorem adm_props : admProps st (bodyProps L) = true := by
  rw [admBody_eq, Bool.and_eq_true] at hL; exact hL.1

omit hst in
theorem adm_nodup : ((denoteAttrs (bodyProps L)).map (·.1)).Nodup := by
  rw [admBody_eq, Bool.and_eq_true] at hL
  exact nodup_map_of_eraseDups_length _ _ hL.2

theorem jfold_rendered :
    jfold ⟨renderBody L, []⟩ st.schema =
      ((denoteAttrs (bodyProps L)).filter (fun p => st.schema.attrs.any (·.name == p.1)),
       ((flatBlocks (bodyProps L)).filter (fun fb => (wanted st.schema fb.1).isSome)).map toJ,
       (((bodyProps L).filter (usedP st.schema)).map propName).reverse,
       unpackErrs st.schema (bodyProps L)) := by
  unfold jfold
  simp only [collect_renderBody]
  rw [fold_rendered st hst _ ((admProps_iff st _).1 (adm_props st L hL)) ([], _) (adm_nodup st L hL)]
  simp

/-- what `content` finds: the attributes the layout writes under names the schema has, the blocks it writes
    under types the schema has, and the three groups of errors -/
theorem content_rendered :
    (⟨renderBody L, []⟩ : JBodyV).content st.schema =
      (⟨(denoteAttrs (bodyProps L)).filter (fun p => st.schema.attrs.any (·.name == p.1)),
        ((flatBlocks (bodyProps L)).filter (fun fb => (wanted st.schema fb.1).isSome)).map toJ⟩,
       unpackErrs st.schema (bodyProps L) ++
       (st.schema.attrs.filter fun as => as.required &&
         !(((denoteAttrs (bodyProps L)).filter (fun p => st.schema.attrs.any (·.name == p.1))).any
           (·.1 == as.name))).map (fun as => JErr.missingRequired as.name) ++
       ((renderProps (bodyProps L)).filter fun p => p.1 != "//" &&
         !((((bodyProps L).filter (usedP st.schema)).map propName).reverse.contains p.1)).map
           fun p => JErr.extraneous p.1) := by
  rw [content_eq, partialContent_eq, jfold_rendered st L hst hL]
  simp only [collect_renderBody, Bool.false_eq_true, if_false, List.append_nil]

end rendered

end HclModel.JBody.Proofs
