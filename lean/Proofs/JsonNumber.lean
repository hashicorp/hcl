import HclModel.Json.Grammar
import Proofs.JsonString
/-!
Number tokens for C13: `parseNumberBytes` restated in stages (sign, integer digits, fraction, exponent), which it
equals by `rfl`; each stage is sound and complete for its part of `IsNumber`.
-/
namespace HclModel.Json.Proofs
open HclModel.Json

def expSign (r : List Byte) : Bool × List Byte :=
  match r with
  | 45 :: r' => (true, r')
  | 43 :: r' => (false, r')
  | _ => (false, r)

def expPart (r2 : List Byte) : Option Int :=
  match r2 with
  | [] => some 0
  | c :: r =>
    if c = 101 ∨ c = 69 then
      let (eneg, r) := expSign r
      let (ep, r3) := spanDigits r
      if ep.isEmpty ∨ !r3.isEmpty then none
      else some (if eneg then - (digitsVal ep : Int) else (digitsVal ep : Int))
    else none

def fracPart (r1 : List Byte) : Option (List Byte × List Byte) :=
  match r1 with
  | 46 :: r =>
    let (fp, r2) := spanDigits r
    if fp.isEmpty then none else some (fp, r2)
  | _ => some ([], r1)

def numBody (neg : Bool) (bs : List Byte) : Option (Int × Int) :=
  let (ip, r1) := spanDigits bs
  if ip.isEmpty then none
  else if ip.length > 1 ∧ ip.head? = some 48 then none
  else
    match fracPart r1 with
    | none => none
    | some (fp, r2) =>
      match expPart r2 with
      | none => none
      | some ex =>
        let m : Int := digitsVal (ip ++ fp)
        some (if neg then -m else m, ex - fp.length)

def negSplit (bs : List Byte) : Bool × List Byte :=
  match bs with
  | 45 :: r => (true, r)
  | _ => (false, bs)

theorem parseNumberBytes_eq (bs : List Byte) :
    parseNumberBytes bs = numBody (negSplit bs).1 (negSplit bs).2 := rfl

theorem isDigit_ne {b : Byte} (h : isDigit b = true) :
    b ≠ 45 ∧ b ≠ 43 ∧ b ≠ 46 ∧ b ≠ 101 ∧ b ≠ 69 := by
  simp [isDigit] at h
  -- `omega` does not look through the abbreviation `Byte`
  unfold Byte at *
  omega

theorem span_spec (bs : List Byte) :
    (spanDigits bs).1 ++ (spanDigits bs).2 = bs ∧ AllDigits (spanDigits bs).1 ∧
      NoHead isDigit (spanDigits bs).2 :=
  ⟨List.takeWhile_append_dropWhile, fun _ => mem_takeWhile_imp, .dropWhile _ bs⟩

theorem span_append {ip r : List Byte} (hip : AllDigits ip) (hr : NoHead isDigit r) :
    spanDigits (ip ++ r) = (ip, r) :=
  Prod.ext (span_run hip hr).1 (span_run hip hr).2

theorem span_allDigits {ip : List Byte} (hip : AllDigits ip) : spanDigits ip = (ip, []) := by
  have := span_append hip .nil
  simpa using this

theorem negSplit_spec (bs : List Byte) :
    (∃ r, bs = 45 :: r ∧ negSplit bs = (true, r)) ∨ negSplit bs = (false, bs) := by
  unfold negSplit
  split
  · exact .inl ⟨_, rfl, rfl⟩
  · exact .inr rfl

theorem negSplit_cons {b : Byte} (t : List Byte) (h : b ≠ 45) : negSplit (b :: t) = (false, b :: t) := by
  unfold negSplit
  split
  · next heq => cases heq; exact absurd rfl h
  · rfl

theorem expSign_spec (r : List Byte) :
    ∃ esign, r = esign ++ (expSign r).2 ∧
      (((expSign r).1 = true ∧ esign = [45]) ∨ ((expSign r).1 = false ∧ (esign = [43] ∨ esign = []))) := by
  unfold expSign
  split
  · exact ⟨[45], rfl, .inl ⟨rfl, rfl⟩⟩
  · exact ⟨[43], rfl, .inr ⟨rfl, .inl rfl⟩⟩
  · exact ⟨[], rfl, .inr ⟨rfl, .inr rfl⟩⟩

theorem expSign_nil : expSign [] = (false, []) := rfl

theorem expSign_cons {b : Byte} (t : List Byte) (h45 : b ≠ 45) (h43 : b ≠ 43) :
    expSign (b :: t) = (false, b :: t) := by
  unfold expSign
  split
  · next heq => cases heq; exact absurd rfl h45
  · next heq => cases heq; exact absurd rfl h43
  · rfl

/-- what `IsNumber.mk` asks of an exponent -/
def ExpCond (eneg : Bool) (esign ep : List Byte) (emark : Byte) : Prop :=
  ep ≠ [] ∧ AllDigits ep ∧ (emark = 101 ∨ emark = 69) ∧
    ((eneg = true ∧ esign = [45]) ∨ (eneg = false ∧ (esign = [43] ∨ esign = [])))

theorem expPart_sound {r2 : List Byte} {ex : Int} (h : expPart r2 = some ex) :
    (r2 = [] ∧ ex = 0) ∨ ∃ eneg esign ep emark, ExpCond eneg esign ep emark ∧
      r2 = emark :: esign ++ ep ∧
      ex = (if eneg then -(digitsVal ep : Int) else (digitsVal ep : Int)) := by
  cases r2 with
  | nil => simp [expPart] at h; exact .inl ⟨rfl, h.symm⟩
  | cons c r =>
    right
    unfold expPart at h
    simp only at h
    split at h
    · next hc =>
      obtain ⟨esign, hr, hsign⟩ := expSign_spec r
      generalize expSign r = p at h hr hsign
      obtain ⟨eneg, r'⟩ := p
      subst hr
      obtain ⟨hsp, hall, -⟩ := span_spec r'
      -- only `span_spec`'s facts about the span are used from here on, so it becomes a pair of variables
      -- (the same step in `fracPart_sound` and `numBody_sound`)
      generalize spanDigits r' = q at h hsp hall
      obtain ⟨ep, r3⟩ := q
      simp only at h hsp hall
      split at h
      · cases h
      · next hne =>
        simp only [not_or, List.isEmpty_iff, Bool.not_eq_eq_eq_not, Bool.not_true] at hne
        cases h
        have hr3 : r3 = [] := by simpa using hne.2
        subst hr3
        simp only [List.append_nil] at hsp
        subst hsp
        exact ⟨eneg, esign, ep, c, ⟨hne.1, hall, hc, hsign⟩, rfl, rfl⟩
    · cases h

theorem expPart_nil : expPart [] = some 0 := rfl

theorem expPart_complete {eneg : Bool} {esign ep : List Byte} {emark : Byte}
    (h : ExpCond eneg esign ep emark) :
    expPart (emark :: esign ++ ep) =
      some (if eneg then -(digitsVal ep : Int) else (digitsVal ep : Int)) := by
  obtain ⟨hne, hall, hmark, hsign⟩ := h
  have hes : expSign (esign ++ ep) = (eneg, ep) := by
    rcases hsign with ⟨rfl, rfl⟩ | ⟨rfl, rfl | rfl⟩
    · rfl
    · rfl
    · cases ep with
      | nil => exact absurd rfl hne
      | cons a l =>
        have ha := isDigit_ne (hall a (by simp))
        exact expSign_cons l ha.1 ha.2.1
  simp only [expPart, List.cons_append, hmark, if_true, hes, span_allDigits hall]
  simp [hne]

theorem fracPart_sound {r1 fp r2 : List Byte} (h : fracPart r1 = some (fp, r2)) :
    AllDigits fp ∧ r1 = (if fp = [] then [] else 46 :: fp) ++ r2 := by
  unfold fracPart at h
  split at h
  · next r =>
    obtain ⟨hsp, hall, -⟩ := span_spec r
    generalize spanDigits r = q at h hsp hall
    obtain ⟨fp', r2'⟩ := q
    simp only at h hsp hall
    split at h
    · cases h
    · next hne =>
      cases h
      have hne' : fp ≠ [] := by simpa using hne
      simp [hne', hsp, hall]
  · cases h
    simp [AllDigits]

theorem fracPart_complete {fp r2 : List Byte} (hall : AllDigits fp) (hr2 : NoHead isDigit r2)
    (h46 : ∀ t, r2 ≠ 46 :: t) :
    fracPart ((if fp = [] then [] else 46 :: fp) ++ r2) = some (fp, r2) := by
  by_cases hfp : fp = []
  · subst hfp
    simp only [if_true, List.nil_append]
    unfold fracPart
    split
    · exact absurd rfl (h46 _)
    · rfl
  · simp only [hfp, if_false, List.cons_append]
    unfold fracPart
    simp only [span_append hall hr2]
    simp [hfp]

/-- `IsNumber.mk` with the indices as variables, to be met by computed text and values -/
theorem IsNumber.mk' {bs : List Byte} {m e : Int}
    (neg : Bool) (ip fp : List Byte) (hasExp : Bool) (eneg : Bool) (esign : List Byte) (ep : List Byte)
    (emark : Byte) (hip : IsInt ip) (hfp : AllDigits fp)
    (hexp : hasExp = true → ExpCond eneg esign ep emark)
    (hb : bs = (if neg then [45] else []) ++ ip ++ (if fp = [] then [] else 46 :: fp) ++
          (if hasExp then emark :: esign ++ ep else []))
    (hm : m = (if neg then -(digitsVal (ip ++ fp) : Int) else (digitsVal (ip ++ fp) : Int)))
    (he : e = (if hasExp then (if eneg then -(digitsVal ep : Int) else (digitsVal ep : Int)) else 0)
          - fp.length) :
    IsNumber bs m e := by
  subst hb hm he
  exact IsNumber.mk neg ip fp hasExp eneg esign ep emark hip hfp hexp

theorem numBody_sound {neg : Bool} {bs : List Byte} {m e : Int} (h : numBody neg bs = some (m, e)) :
    IsNumber ((if neg then [45] else []) ++ bs) m e := by
  unfold numBody at h
  obtain ⟨hsp, hall, -⟩ := span_spec bs
  generalize spanDigits bs = q at h hsp hall
  obtain ⟨ip, r1⟩ := q
  simp only at h hsp hall
  split at h
  · cases h
  · next hne =>
    split at h
    · cases h
    · next hlead =>
      have hip : IsInt ip := by
        refine ⟨by simpa using hne, hall, ?_⟩
        intro hlen hhead
        exact hlead ⟨hlen, hhead⟩
      split at h
      · cases h
      · next fp r2 hfrac =>
        obtain ⟨hfp, hr1⟩ := fracPart_sound hfrac
        split at h
        · cases h
        · next ex hex =>
          simp only [Option.some.injEq, Prod.mk.injEq] at h
          obtain ⟨hm, he⟩ := h
          rcases expPart_sound hex with ⟨rfl, rfl⟩ | ⟨eneg, esign, ep, emark, hcond, rfl, rfl⟩
          · refine IsNumber.mk' neg ip fp false false [] [] 0 hip hfp (by simp) ?_ hm.symm ?_
            · simp [← hsp, hr1]
            · simp [← he]
          · refine IsNumber.mk' neg ip fp true eneg esign ep emark hip hfp (fun _ => hcond) ?_ hm.symm ?_
            · simp [← hsp, hr1]
            · simp [← he]

theorem numBody_complete (neg : Bool) {ip fp : List Byte} (hasExp eneg : Bool) {esign ep : List Byte}
    {emark : Byte} (hip : IsInt ip) (hfp : AllDigits fp)
    (hexp : hasExp = true → ExpCond eneg esign ep emark) :
    numBody neg (ip ++ (if fp = [] then [] else 46 :: fp) ++
        (if hasExp then emark :: esign ++ ep else [])) =
      some ((if neg then -(digitsVal (ip ++ fp) : Int) else (digitsVal (ip ++ fp) : Int)),
        (if hasExp then (if eneg then -(digitsVal ep : Int) else (digitsVal ep : Int)) else 0)
          - fp.length) := by
  obtain ⟨hne, hall, hlead⟩ := hip
  -- all that the integer and fraction stages need of the exponent text `X`: it stops both digit spans, does not
  -- start a fraction, and `expPart` reads it; with that it is generalised, and no later step splits on `hasExp`
  have hX : NoHead isDigit (if hasExp then emark :: esign ++ ep else []) ∧
      (∀ t, (if hasExp then emark :: esign ++ ep else []) ≠ 46 :: t) ∧
      expPart (if hasExp then emark :: esign ++ ep else []) =
        some (if hasExp then (if eneg then -(digitsVal ep : Int) else (digitsVal ep : Int)) else 0) := by
    cases hasExp with
    | false => exact ⟨.nil, fun t h => (by cases h), rfl⟩
    | true =>
      have hc := hexp rfl
      have hmark : isDigit emark = false ∧ emark ≠ 46 := by
        rcases hc.2.2.1 with rfl | rfl <;> decide
      refine ⟨.cons _ hmark.1, ?_, expPart_complete hc⟩
      intro t h
      simp only [if_true, List.cons_append, List.cons.injEq] at h
      exact hmark.2 h.1
  generalize (if hasExp then emark :: esign ++ ep else []) = X at hX
  generalize (if hasExp then (if eneg then -(digitsVal ep : Int) else (digitsVal ep : Int)) else 0) = ex at hX
  obtain ⟨hXd, hX46, hXe⟩ := hX
  have hF : NoHead isDigit ((if fp = [] then [] else 46 :: fp) ++ X) := by
    by_cases h : fp = []
    · simpa [h] using hXd
    · simp only [h, if_false, List.cons_append]
      exact .cons _ (by decide)
  unfold numBody
  rw [List.append_assoc, span_append hall hF]
  simp only [fracPart_complete hfp hXd hX46, hXe]
  have h1 : ip.isEmpty = false := by simpa using hne
  have h2 : ¬ (ip.length > 1 ∧ ip.head? = some 48) := fun h => hlead h.1 h.2
  simp [h1, h2]

theorem parseNumberBytes_sound {bs : List Byte} {m e : Int}
    (h : parseNumberBytes bs = some (m, e)) : IsNumber bs m e := by
  rw [parseNumberBytes_eq] at h
  rcases negSplit_spec bs with ⟨r, rfl, hs⟩ | hs
  · rw [hs] at h
    exact numBody_sound h
  · rw [hs] at h
    exact numBody_sound h

theorem parseNumberBytes_complete {bs : List Byte} {m e : Int}
    (h : IsNumber bs m e) : parseNumberBytes bs = some (m, e) := by
  obtain ⟨neg, ip, fp, hasExp, eneg, esign, ep, emark, hip, hfp, hexp⟩ := h
  rw [parseNumberBytes_eq]
  have hbody := numBody_complete neg hasExp eneg hip hfp hexp
  cases neg with
  | true =>
    simp only [if_true, List.append_assoc, List.cons_append, List.nil_append] at hbody ⊢
    exact hbody
  | false =>
    obtain ⟨hne, hall, -⟩ := hip
    cases ip with
    | nil => exact absurd rfl hne
    | cons a l =>
      have ha := isDigit_ne (hall a (by simp))
      simp only [Bool.false_eq_true, if_false, List.nil_append, List.cons_append] at hbody ⊢
      rw [negSplit_cons _ ha.1]
      exact hbody

theorem IsNumber.scan_facts {bs : List Byte} {m e : Int} (h : IsNumber bs m e) :
    (∃ b r, bs = b :: r ∧ canStartNumber b = true) ∧ (∀ b ∈ bs, isNumberByte b = true) := by
  obtain ⟨neg, ip, fp, hasExp, eneg, esign, ep, emark, ⟨hne, hall, -⟩, hfp, hexp⟩ := h
  have hdig : ∀ {l : List Byte}, AllDigits l → ∀ b ∈ l, isNumberByte b = true :=
    fun h b hb => by simp [isNumberByte, h b hb]
  constructor
  · cases neg with
    | true => exact ⟨45, _, rfl, by decide⟩
    | false =>
      obtain ⟨a, l, rfl⟩ := List.exists_cons_of_ne_nil hne
      exact ⟨a, _, rfl, by simp [canStartNumber, hall a (by simp)]⟩
  -- sign, integer part, fraction, exponent: each piece consists of number bytes
  · simp only [List.forall_mem_append]
    refine ⟨⟨⟨?_, hdig hall⟩, ?_⟩, ?_⟩
    · cases neg <;> decide
    · split
      · simp
      · exact List.forall_mem_cons.mpr ⟨by decide, hdig hfp⟩
    · cases hasExp with
      | false => simp
      | true =>
        obtain ⟨-, hep, hmark, hsign⟩ := hexp rfl
        refine List.forall_mem_cons.mpr ⟨by rcases hmark with rfl | rfl <;> decide,
          List.forall_mem_append.mpr ⟨?_, hdig hep⟩⟩
        rcases hsign with ⟨-, rfl⟩ | ⟨-, rfl | rfl⟩ <;> decide

end HclModel.Json.Proofs
