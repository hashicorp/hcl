import HclModel.Syntax.Traversal
import Proofs.StringLit
/-!
The two readers of static traversals agree wherever the stand-alone parser accepts, and both read back what
`TokensForTraversal` writes (C20, C11).
-/
namespace HclModel.Trav.Proofs
open HclModel.Trav HclModel.StringLit

theorem map_of_imp {α β : Type} {a b : Option α} {g : α → β} {y : β} (hab : ∀ x, a = some x → b = some x)
    (h : a.map g = some y) : b.map g = some y := by
  cases a with
  | none => cases h
  | some x => rw [hab x rfl]; exact h

theorem exprSteps_of_standaloneSteps : ∀ (f : Nat) (ts : List Tok) (ss : List Step),
    standaloneSteps f ts = some ss → exprSteps f ts = some ss
  | f+1, ts, ss, h => by
    unfold standaloneSteps at h
    unfold exprSteps
    -- the two loops are the same `match`es except after a dot, where the expression parser has one more
    -- alternative: splitting the hypothesis splits the goal with it everywhere else
    split at h
    · exact h
    · split at h
      · next e => rw [e]; exact map_of_imp (exprSteps_of_standaloneSteps f _) h
      · cases h
    · split at h
      · split at h
        · exact map_of_imp (exprSteps_of_standaloneSteps f _) h
        · cases h
      · split at h
        · exact map_of_imp (exprSteps_of_standaloneSteps f _) h
        · cases h
      · cases h
    · cases h

theorem viaExpression_of_standalone (ts : List Tok) (t : T) (h : standalone ts = some t) :
    viaExpression ts = some t := by
  unfold standalone at h
  unfold viaExpression
  split at h
  · exact map_of_imp (exprSteps_of_standaloneSteps _ _) h
  · cases h

theorem standaloneSteps_gen (isPrint : Char → Bool) (hb : isPrint '{' = true) :
    ∀ (ss : List Step) (f : Nat), ss.length < f →
      standaloneSteps f (ss.flatMap (genStep isPrint)) = some ss
  | [], f+1, _ => rfl
  | s :: ss, f+1, hf => by
    have ih := standaloneSteps_gen isPrint hb ss f (Nat.lt_of_succ_lt_succ hf)
    match s with
    | .attr n => simp [standaloneSteps, genStep, skip, ih]
    | .index (.num m) => simp [standaloneSteps, genStep, skip, closeBrack, ih]
    | .index (.str s) =>
      simp [standaloneSteps, genStep, skip, closeBrack, ih, Proofs.parseQuoted_escape isPrint hb s]

theorem genStep_length_pos (isPrint : Char → Bool) (s : Step) : 1 ≤ (genStep isPrint s).length := by
  match s with
  | .attr _ | .index (.num _) | .index (.str _) => simp [genStep]

theorem flatMap_genStep_length (isPrint : Char → Bool) (ss : List Step) :
    ss.length ≤ (ss.flatMap (genStep isPrint)).length := by
  induction ss with
  | nil => simp
  | cons s ss ih =>
    have := genStep_length_pos isPrint s
    simp only [List.flatMap_cons, List.length_append, List.length_cons]
    omega

theorem skip_cons_ne (t : Tok) (r : List Tok) (h : t ≠ .newline) : skip (t :: r) = t :: r := by
  cases t <;> simp_all [skip]

theorem standalone_gen (isPrint : Char → Bool) (hb : isPrint '{' = true) (t : T) :
    standalone (gen isPrint t) = some t := by
  have h := standaloneSteps_gen isPrint hb t.steps ((t.steps.flatMap (genStep isPrint)).length + 1)
    (Nat.lt_succ_of_le (flatMap_genStep_length isPrint t.steps))
  unfold standalone gen
  rw [skip_cons_ne _ _ (by simp)]
  simp only [h, Option.map_some]

end HclModel.Trav.Proofs
