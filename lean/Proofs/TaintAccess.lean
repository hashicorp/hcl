import Proofs.TaintVal
import Proofs.ValueAccess
import Proofs.EvalSteps
/-!
C19: `getAttr` and `index` expose no taint when the operands do not (`tw false`); the diagnostics an operation
adds carry no fragments (`NoNew`).
Throughout the chain `frags_X` says that the diagnostics of `X` carry no fragments at all, `X_frags` that they echo
nothing tainted (`fragsClean`) when those of the sub-evaluations do not.
-/
namespace HclModel.Proofs
open Val

theorem tw_unk_of {f : Fl} (hf : flOK f) (t : Ty) : tw false (.unk f t) = true := by
  simp only [tw, Bool.false_or, Bool.or_eq_true, Bool.not_eq_true']
  cases hg : f.g
  · exact Or.inl rfl
  · exact Or.inr (hf hg)

theorem tw_dyn_withFl {f : Fl} (hf : flOK f) : tw false (Val.dynVal.withFl f) = true :=
  tw_withFl (tw_dynVal _) hf

theorem tw_elem {x coll : Val} (hx : Elem x coll) (h : tw false coll = true) : tw coll.fl.m x = true := by
  cases coll <;> simp only [Elem] at hx
  case list f t xs => rw [tw_list_eq, Bool.and_eq_true] at h; exact twL_mem h.2 x hx
  case tuple f xs => rw [tw_tuple_eq, Bool.and_eq_true] at h; exact twL_mem h.2 x hx
  case map f t kvs => rw [tw_map_eq, Bool.and_eq_true] at h; exact twF_lookup h.2 hx.choose_spec
  case object f kvs => rw [tw_object_eq, Bool.and_eq_true] at h; exact twF_lookup h.2 hx.choose_spec

/-- An access exposes no taint when the flags it puts on the result are consistent and keep the mark of the
    collection: the elements were covered by that mark at most. -/
theorem Access.tw {coll : Val} {o : Out} (h : Access coll (fun g => flOK g ∧ (coll.fl.m = true → g.m = true)) o)
    (hc : tw false coll = true) : tw false o.1 = true := by
  cases h with
  | fail => exact tw_dynVal _
  | elem x g hx hg => exact tw_withFl_cover (tw_elem hx hc) hg.2 hg.1
  | unk g t hg => exact tw_unk_of hg.1 t
  | dyn g hg => exact tw_dyn_withFl hg.1

theorem getAttr_tw (v : Val) (name : String) (h : tw false v = true) : tw false (getAttr v name).1 = true :=
  ((getAttr_access v name).mono fun _ hg => hg.symm ▸ ⟨tw_flOK h, id⟩).tw h

theorem index_tw (kk : Bool) (c k : Val) (hc : tw false c = true) (hk : tw false k = true) :
    tw false (index kk c k).1 = true := by
  refine ((index_access kk c k).mono ?_).tw hc
  rintro g (rfl | rfl)
  · exact ⟨tw_flOK hc, id⟩
  · exact ⟨flOK_join (tw_flOK hc) (tw_flOK hk), fun h => by simp [h]⟩

/-- every diagnostic in `ds` is fragment-free or comes from `ins` -/
def NoNew (ds ins : List Diag) : Prop := ∀ d ∈ ds, d.frags = [] ∨ d ∈ ins

theorem NoNew.refl (ds : List Diag) : NoNew ds ds := fun _ hd => Or.inr hd
theorem NoNew.nil (ins : List Diag) : NoNew [] ins := fun _ hd => by cases hd
theorem NoNew.of_sub {ds ins : List Diag} (h : ∀ d ∈ ds, d ∈ ins) : NoNew ds ins := fun d hd => Or.inr (h d hd)
theorem NoNew.append {a b ins : List Diag} (ha : NoNew a ins) (hb : NoNew b ins) : NoNew (a ++ b) ins := by
  intro d hd
  rcases List.mem_append.mp hd with hd | hd
  · exact ha d hd
  · exact hb d hd
theorem NoNew.free {ds ins : List Diag} (h : ∀ d ∈ ds, d.frags = []) : NoNew ds ins := fun d hd => Or.inl (h d hd)
theorem NoNew.mono {ds ins ins' : List Diag} (h : NoNew ds ins) (hs : ∀ d ∈ ins, d ∈ ins') : NoNew ds ins' := by
  intro d hd
  rcases h d hd with h | h
  · exact Or.inl h
  · exact Or.inr (hs d h)
theorem NoNew.app_right {ds ins : List Diag} (b : List Diag) (h : NoNew ds ins) : NoNew ds (ins ++ b) :=
  h.mono fun _ hd => List.mem_append_left _ hd
theorem NoNew.app_left {ds ins : List Diag} (a : List Diag) (h : NoNew ds ins) : NoNew ds (a ++ ins) :=
  h.mono fun _ hd => List.mem_append_right _ hd
theorem NoNew.trans {a b c : List Diag} (h : NoNew a b) (h' : NoNew b c) : NoNew a c := by
  intro d hd
  rcases h d hd with h | h
  · exact Or.inl h
  · exact h' d h

theorem frags_single_free {x : Diag} (h : x.frags = []) : ∀ d ∈ [x], d.frags = [] := by
  intro d hd; simp only [List.mem_singleton] at hd; subst hd; exact h

theorem NoNew.snoc {ds ins : List Diag} {x : Diag} (h : NoNew ds ins) (hx : x.frags = []) : NoNew (ds ++ [x]) ins :=
  h.append (NoNew.free (frags_single_free hx))

theorem NoNew.insert {x : Diag} (a b : List Diag) (hx : x.frags = []) : NoNew (a ++ [x] ++ b) (a ++ b) :=
  (((NoNew.refl a).app_right b).snoc hx).append ((NoNew.refl b).app_left a)

theorem fragsClean_nil : fragsClean [] := fun _ hd => by cases hd
theorem fragsClean_append {a b : List Diag} (ha : fragsClean a) (hb : fragsClean b) : fragsClean (a ++ b) := by
  intro d hd
  rcases List.mem_append.mp hd with hd | hd
  · exact ha d hd
  · exact hb d hd
theorem fragsClean_of_NoNew {ds ins : List Diag} (h : NoNew ds ins) (hi : fragsClean ins) : fragsClean ds := by
  intro d hd f hf
  rcases h d hd with h | h
  · rw [h] at hf; cases hf
  · exact hi d h f hf
theorem fragsClean_free {ds : List Diag} (h : ∀ d ∈ ds, d.frags = []) : fragsClean ds :=
  fragsClean_of_NoNew (NoNew.free h) fragsClean_nil
theorem fragsClean_single_free {x : Diag} (h : x.frags = []) : fragsClean [x] :=
  fragsClean_free (frags_single_free h)
theorem fragsClean_flatMap {α : Type} (xs : List α) (f : α → List Diag) (h : ∀ x ∈ xs, fragsClean (f x)) :
    fragsClean (xs.flatMap f) := by
  intro d hd
  obtain ⟨x, hx, hdx⟩ := List.mem_flatMap.mp hd
  exact h x hx d hdx
theorem fragsClean_left {a b : List Diag} (h : fragsClean (a ++ b)) : fragsClean a :=
  fun d hd => h d (List.mem_append_left _ hd)
theorem fragsClean_right {a b : List Diag} (h : fragsClean (a ++ b)) : fragsClean b :=
  fun d hd => h d (List.mem_append_right _ hd)

theorem frags_convErr {a : Val} {t : Ty} {d : Diag} (h : tryConvert a t = .error d) (site : String) :
    (if d.isUnsupported then d else (⟨site, []⟩ : Diag)).frags = [] := by
  split
  · exact tryConvert_err_frags h
  · rfl

theorem getAttrOut_tw (o : Out) (name : String) (h : tw false o.1 = true) :
    tw false (getAttrOut o name).1 = true := by
  obtain ⟨v, ds⟩ := o
  unfold getAttrOut
  dsimp only
  split
  · exact tw_dynVal _
  · exact getAttr_tw v name h

theorem getAttrOut_NoNew (o : Out) (name : String) : NoNew (getAttrOut o name).2 o.2 := by
  obtain ⟨v, ds⟩ := o
  unfold getAttrOut
  dsimp only
  split
  · exact NoNew.refl _
  · exact NoNew.append (NoNew.refl _) (NoNew.free (getAttr_access v name).frags)

theorem indexOut_tw (kk : Bool) (co ko : Out) (hc : tw false co.1 = true) (hk : tw false ko.1 = true) :
    tw false (indexOut kk co ko).1 = true := by
  obtain ⟨cv, cd⟩ := co
  obtain ⟨kv, kd⟩ := ko
  exact index_tw kk cv kv hc hk

theorem indexOut_NoNew (kk : Bool) (co ko : Out) : NoNew (indexOut kk co ko).2 (co.2 ++ ko.2) := by
  obtain ⟨cv, cd⟩ := co
  obtain ⟨kv, kd⟩ := ko
  exact NoNew.append (NoNew.refl _) (NoNew.free (index_access kk cv kv).frags)

end HclModel.Proofs
