import HclModel.Gohcl.Codec
import Proofs.Decode
/-!
C16, attribute level: `toCty` is total on well-typed values, conversion of the reparsed literal returns what `toCty`
produced, `fromCty` inverts `toCty` where there are no pointers.  The inductions match on the pairs (type, value) their
hypotheses admit; on any other pair a hypothesis computes to `false = true` / `none = some c`, which closes the case.
-/
namespace HclModel.Gohcl.Proofs
open HclModel HclModel.Val HclModel.Body HclModel.Proofs HclModel.Dec.Proofs

mutual
theorem toCty_isSome : ∀ (t : GTy) (v : GVal), hasTy t v = true → (toCty t v).isSome = true
  | .str, .str _, _ | .int, .int _, _ | .bool, .bool _, _ => rfl
  | .slice _, .slice none, _ | .map _, .map none, _ | .ptr _, .ptr none, _ => rfl
  | .slice t, .slice (some xs), h => Option.isSome_map.trans (toCtyList_isSome t xs h)
  | .map t, .map (some kvs), h => Option.isSome_map.trans (toCtyFields_isSome t kvs (Bool.and_eq_true_iff.1 h).1)
  | .ptr t, .ptr (some v), h => toCty_isSome t v h
theorem toCtyList_isSome : ∀ (t : GTy) (xs : List GVal), hasTyList t xs = true → (toCtyList t xs).isSome = true
  | _, [], _ => rfl
  | t, x :: rest, h => by
    have h := Bool.and_eq_true_iff.1 h
    obtain ⟨a, ha⟩ := Option.isSome_iff_exists.1 (toCty_isSome t x h.1)
    obtain ⟨b, hb⟩ := Option.isSome_iff_exists.1 (toCtyList_isSome t rest h.2)
    simp only [toCtyList, ha, hb, Option.isSome_some]
theorem toCtyFields_isSome : ∀ (t : GTy) (kvs : List (String × GVal)), hasTyFields t kvs = true →
    (toCtyFields t kvs).isSome = true
  | _, [], _ => rfl
  | t, (k, x) :: rest, h => by
    have h := Bool.and_eq_true_iff.1 h
    obtain ⟨a, ha⟩ := Option.isSome_iff_exists.1 (toCty_isSome t x h.1)
    obtain ⟨b, hb⟩ := Option.isSome_iff_exists.1 (toCtyFields_isSome t rest h.2)
    simp only [toCtyFields, ha, hb, Option.isSome_some]
end

theorem toCtyList_cons {t : GTy} {x : GVal} {rest : List GVal} {vs : List Val}
    (h : toCtyList t (x :: rest) = some vs) :
    ∃ v vs', toCty t x = some v ∧ toCtyList t rest = some vs' ∧ vs = v :: vs' := by
  simp only [toCtyList] at h
  split at h
  · exact ⟨_, _, ‹_›, ‹_›, (Option.some.inj h).symm⟩
  · cases h

theorem toCtyFields_cons {t : GTy} {k : String} {x : GVal} {rest : List (String × GVal)}
    {vs : List (String × Val)} (h : toCtyFields t ((k, x) :: rest) = some vs) :
    ∃ v vs', toCty t x = some v ∧ toCtyFields t rest = some vs' ∧ vs = (k, v) :: vs' := by
  simp only [toCtyFields] at h
  split at h
  · exact ⟨_, _, ‹_›, ‹_›, (Option.some.inj h).symm⟩
  · cases h

theorem ctyTy_ne_dyn (t : GTy) : ctyTy t ≠ Ty.dyn := by
  induction t with
  | ptr t ih => exact ih
  | _ => exact nofun

theorem ctyTy_beq_dyn (t : GTy) : (ctyTy t == Ty.dyn) = false :=
  Bool.eq_false_iff.2 fun h => ctyTy_ne_dyn t (eq_of_beq h)

mutual
theorem convert_reparse : ∀ (t : GTy) (v : GVal) (c : Val), toCty t v = some c →
    convert (reparse c) (ctyTy t) = .ok c
  | .str, .str _, c, h | .int, .int _, c, h | .bool, .bool _, c, h => by
    obtain rfl := Option.some.inj h; exact convert_same _ _ rfl
  | .slice _, .slice none, c, h | .map _, .map none, c, h => by
    obtain rfl := Option.some.inj h; exact convert_null_dyn _ nofun
  | .ptr t, .ptr none, c, h => by obtain rfl := Option.some.inj h; exact convert_null_dyn _ (ctyTy_ne_dyn t)
  | .slice t, .slice (some xs), c, h => by
    obtain ⟨vs, hvs, rfl⟩ := Option.map_eq_some_iff.1 h
    exact (convert_tuple_list ..).trans (by rw [convertList_reparse t xs vs hvs]; rfl)
  | .map t, .map (some kvs), c, h => by
    obtain ⟨vs, hvs, rfl⟩ := Option.map_eq_some_iff.1 h
    exact (convert_object_map ..).trans (by rw [convertFields_reparse t kvs vs hvs]; rfl)
  | .ptr t, .ptr (some v), c, h => convert_reparse t v c h
theorem convertList_reparse : ∀ (t : GTy) (xs : List GVal) (vs : List Val), toCtyList t xs = some vs →
    convertList (reparseList vs) (ctyTy t) = .ok vs
  | _, [], vs, h => by
    obtain rfl := Option.some.inj h
    rw [reparseList, convertList]; rfl
  | t, x :: rest, vs, h => by
    obtain ⟨v, vs', hv, hvs, rfl⟩ := toCtyList_cons h
    rw [reparseList, convertList, ctyTy_beq_dyn, convert_reparse t x v hv, convertList_reparse t rest vs' hvs]
    rfl
theorem convertFields_reparse : ∀ (t : GTy) (kvs : List (String × GVal)) (vs : List (String × Val)),
    toCtyFields t kvs = some vs → convertFields (reparseFields vs) (ctyTy t) = .ok vs
  | _, [], vs, h => by
    obtain rfl := Option.some.inj h
    rw [reparseFields, convertFields]; rfl
  | t, (k, x) :: rest, vs, h => by
    obtain ⟨v, vs', hv, hvs, rfl⟩ := toCtyFields_cons h
    rw [reparseFields, convertFields, ctyTy_beq_dyn, convert_reparse t x v hv,
      convertFields_reparse t rest vs' hvs]
    rfl
end

mutual
theorem fromCty_toCty : ∀ (t : GTy) (v : GVal) (c : Val), noPtr t = true → hasTy t v = true → toCty t v = some c →
    fromCty t c = some v
  | .str, .str _, c, _, _, h | .bool, .bool _, c, _, _, h | .slice _, .slice none, c, _, _, h
  | .map _, .map none, c, _, _, h => by obtain rfl := Option.some.inj h; rw [fromCty]
  | .int, .int n, c, _, ht, h => by
    obtain rfl := Option.some.inj h
    simp only [hasTy, decide_eq_true_eq] at ht
    simp [fromCty, ht]
  | .slice t, .slice (some xs), c, hp, ht, h => by
    obtain ⟨vs, hvs, rfl⟩ := Option.map_eq_some_iff.1 h
    rw [fromCty, fromCtyList_toCtyList t xs vs hp ht hvs]; rfl
  | .map t, .map (some kvs), c, hp, ht, h => by
    obtain ⟨vs, hvs, rfl⟩ := Option.map_eq_some_iff.1 h
    rw [fromCty, fromCtyFields_toCtyFields t kvs vs hp (Bool.and_eq_true_iff.1 ht).1 hvs]; rfl
theorem fromCtyList_toCtyList : ∀ (t : GTy) (xs : List GVal) (vs : List Val), noPtr t = true →
    hasTyList t xs = true → toCtyList t xs = some vs → fromCtyList t vs = some xs
  | _, [], vs, _, _, h => by obtain rfl := Option.some.inj h; rw [fromCtyList]
  | t, x :: rest, vs, hp, ht, h => by
    obtain ⟨v, vs', hv, hvs, rfl⟩ := toCtyList_cons h
    have ht := Bool.and_eq_true_iff.1 ht
    rw [fromCtyList, fromCty_toCty t x v hp ht.1 hv, fromCtyList_toCtyList t rest vs' hp ht.2 hvs]
theorem fromCtyFields_toCtyFields : ∀ (t : GTy) (kvs : List (String × GVal)) (vs : List (String × Val)),
    noPtr t = true → hasTyFields t kvs = true → toCtyFields t kvs = some vs → fromCtyFields t vs = some kvs
  | _, [], vs, _, _, h => by obtain rfl := Option.some.inj h; rw [fromCtyFields]
  | t, (k, x) :: rest, vs, hp, ht, h => by
    obtain ⟨v, vs', hv, hvs, rfl⟩ := toCtyFields_cons h
    have ht := Bool.and_eq_true_iff.1 ht
    rw [fromCtyFields, fromCty_toCty t x v hp ht.1 hv, fromCtyFields_toCtyFields t rest vs' hp ht.2 hvs]
end

/-- `Props/C16.lean`, `attr_roundtrip` -/
theorem attr_roundtrip (t : GTy) (v : GVal) (c : Val) (ht : hasTy t v = true) (hp : noPtr t = true)
    (hc : toCty t v = some c) : decodeExpr t (reparse c) = some v := by
  simp only [decodeExpr, convert_reparse t v c hc, fromCty_toCty t v c hp ht hc]

end HclModel.Gohcl.Proofs
