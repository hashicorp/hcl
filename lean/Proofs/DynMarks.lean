import Proofs.DynLevel
import Proofs.ValueBasics
/-!
C06 on the dynamic-block model: where the marks of a `for_each` collection go.

`decodeSpec` unmarks the collection and keeps its flags `m`; every block generated for an element gets
`marks := m` (`valueMarks`); every attribute handed out by such a body is an `exprWrap` with
`resultMarks := m`; its value is the expression's value with `m` added at the top — whatever the expression
evaluates to (a constant, a null, something that does not mention the iterator at all).
-/
namespace HclModel.Dyn.Proofs

/-- `exprWrap.Value`: the result marks are on the value, known or not, null or not, error or not -/
theorem attr_value_marked (ev : Env → Expr → Out) (ρ : Env) (a : XAttr) (h : a.marks.m = true) :
    (a.value ev ρ).1.isMarked = true := by
  unfold XAttr.value
  split
  · exact Proofs.withFl_marked Val.dynVal _ h
  · exact Proofs.withFl_marked _ _ h

/-- the attributes a body hands out carry the body's value marks (or, inside an `unknownBody`, its marks) -/
theorem contentCore_attr_marks (ev : Env → Expr → Out) (ρf : Env) (b : XBody) (s : Body.Schema) (pm : Bool) :
    ∀ p ∈ (b.contentCore ev ρf s pm).1.attrs,
      p.2.marks = (match b.unknown with | some um => um | none => b.marks) := by
  intro p hp
  rw [contentCore_fst] at hp
  obtain ⟨q, hq, rfl⟩ := List.mem_map.1 hp
  obtain ⟨r, _, rfl⟩ := List.mem_map.1 hq
  cases b.unknown <;> rfl

theorem expandDyn_marks (ev : Env → Expr → Out) (ρf : Env) (its : Iters) (lc : Nat) (type : String)
    (fe : Expr) (itn : Option String) (labels : Option (List Expr)) (content : SBody) :
    ∀ blk ∈ (expandDyn ev ρf its lc type fe itn labels content).1,
      blk.body.marks = (ev (iterEnv its ++ ρf) fe).1.fl :=
  fun blk hb => (expandDyn_mem ev ρf its lc type fe itn labels content blk hb).2.2.1

end HclModel.Dyn.Proofs
