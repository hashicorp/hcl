import HclModel.Json.Grammar
import Proofs.JsonNumber
import Proofs.JsonString
import Proofs.JsonScan
import Proofs.JsonParse
/-!
C13: the JSON scanner + parser model accepts exactly the RFC 8259 grammar (`JsonText`) and computes the
denoted value, for any grapheme segmentation `adv` (the scanner clamps cluster steps, `clampAdv`).
-/
namespace HclModel.Json.Proofs
open HclModel.Json

def punctByte : TT → Byte
  | .braceO => 123 | .braceC => 125 | .brackO => 91 | .brackC => 93 | .comma => 44 | .colon => 58
  | .equals => 61 | _ => 0

theorem punct_byte {b : Byte} {ty : TT} (h : punct b = some ty) : b = punctByte ty := by
  rcases punct_cases h with ⟨rfl, rfl⟩ | ⟨rfl, rfl⟩ | ⟨rfl, rfl⟩ | ⟨rfl, rfl⟩ | ⟨rfl, rfl⟩ | ⟨rfl, rfl⟩ | ⟨rfl, rfl⟩ <;> rfl

theorem punct_inj {b c : Byte} {ty : TT} (hb : punct b = some ty) (hc : punct c = some ty) : b = c :=
  (punct_byte hb).trans (punct_byte hc).symm

theorem S_inv_punct {adv : List Byte → Nat} {buf : List Byte} {pos : Nat} {t : Token} {ts : List Token}
    (c : Byte) {ty : TT} (hc : punct c = some ty) (h : S adv buf pos = t :: ts) (hty : t.ty = ty) :
    ∃ w r pos', buf = w ++ c :: r ∧ AllWs w ∧ ts = S adv r pos' := by
  obtain ⟨w, buf1, hb, hw, hcase⟩ := S_inv h
  obtain ⟨n1, n2, n3, n4, n5⟩ := punct_ty_ne hc
  rw [← hty] at n1 n2 n3 n4 n5
  rcases hcase with ⟨_, h2, _⟩ | ⟨b, r, pos', h1, h2, h3⟩ | ⟨_, _, _, _, h2 | h2 | h2⟩ | h2
  · exact absurd h2 n1
  · rw [hty] at h2
    have := punct_inj h2 hc
    subst this
    exact ⟨w, r, pos', by rw [hb, h1], hw, h3⟩
  · exact absurd h2 n2
  · exact absurd h2 n3
  · exact absurd h2 n4
  · exact absurd h2 n5

theorem S_inv_lit {adv : List Byte → Nat} {buf : List Byte} {pos : Nat} {t : Token} {ts : List Token}
    (h : S adv buf pos = t :: ts) (hty : t.ty = .string ∨ t.ty = .number ∨ t.ty = .keyword) :
    ∃ w buf2 pos', buf = w ++ t.bytes ++ buf2 ∧ AllWs w ∧ ts = S adv buf2 pos' := by
  obtain ⟨w, buf1, hb, hw, hcase⟩ := S_inv h
  rcases hcase with ⟨_, h2, _⟩ | ⟨b, r, pos', h1, h2, h3⟩ | ⟨buf2, pos', h1, h2, _⟩ | h2
  · rw [h2] at hty; simp at hty
  · obtain ⟨n1, n2, n3, n4, n5⟩ := punct_ty_ne h2
    rcases hty with h | h | h
    · exact absurd h n2
    · exact absurd h n3
    · exact absurd h n4
  · exact ⟨w, buf2, pos', by rw [hb, h1, List.append_assoc], hw, h2⟩
  · rw [h2] at hty; simp at hty

theorem S_inv_eof {adv : List Byte → Nat} {buf : List Byte} {pos : Nat} {t : Token}
    (h : S adv buf pos = [t]) (hty : t.ty = .eof) : AllWs buf := by
  obtain ⟨w, buf1, hb, hw, hcase⟩ := S_inv h
  rcases hcase with ⟨h1, _, _⟩ | ⟨b, r, pos', h1, h2, h3⟩ | ⟨_, _, _, _, h2 | h2 | h2⟩ | h2
  · rw [hb, h1, List.append_nil]; exact hw
  · exact absurd hty (punct_ty_ne h2).1
  · rw [hty] at h2; cases h2
  · rw [hty] at h2; cases h2
  · rw [hty] at h2; cases h2
  · rw [hty] at h2; cases h2

theorem allWs_nil : AllWs [] := fun _ h => by cases h

theorem allWs_append {a b : List Byte} (ha : AllWs a) (hb : AllWs b) : AllWs (a ++ b) := by
  intro x hx
  rcases List.mem_append.mp hx with h | h
  · exact ha x h
  · exact hb x h

theorem string_token_sound {bs d : List Byte} (h : parseStringBytes bs = some d) :
    ∃ s w, bs = s ++ w ∧ AllWs w ∧ IsString s d := by
  obtain ⟨w, hb, hw⟩ := dropTrailingWs_spec bs
  exact ⟨_, w, hb, hw, parseStringBytes_sound h⟩

/-- what the scanner read for a run whose result is `r`: `buf` begins with text that spells `r` (a value
    between whitespace; elements up to `]`; members up to `}`), and `ts` are the tokens of what follows.
    Whitespace behind the value too: `parseStringBytes` strips it off a string token (`dropTrailingWs`) -/
def Res.spelt (adv : List Byte → Nat) (buf : List Byte) (ts : List Token) : Res → Prop
  | .v n => ∃ w v w' buf' pos', buf = w ++ v ++ w' ++ buf' ∧ AllWs w ∧ AllWs w' ∧ Value v n ∧ ts = S adv buf' pos'
  | .e ns => ∃ body buf' pos', buf = body ++ 93 :: buf' ∧ Elems body ns ∧ ts = S adv buf' pos'
  | .m ms => ∃ body buf' pos', buf = body ++ 125 :: buf' ∧ Members body ms ∧ ts = S adv buf' pos'

theorem token_value_sound {adv : List Byte → Nat} {buf : List Byte} {pos : Nat} {t : Token} {ts : List Token}
    (hS : S adv buf pos = t :: ts) (hty : t.ty = .string ∨ t.ty = .number ∨ t.ty = .keyword)
    {s w' : List Byte} {n : Node} (hb : t.bytes = s ++ w') (hw' : AllWs w') (hv : Value s n) :
    Res.spelt adv buf ts (.v n) := by
  obtain ⟨w, buf2, pos1, rfl, hw, hr⟩ := S_inv_lit hS hty
  exact ⟨w, s, w', buf2, pos1, by rw [hb]; simp, hw, hw', hv, hr⟩

theorem key_colon_sound {adv : List Byte → Nat} {buf : List Byte} {pos : Nat} {k colon : Token} {toks : List Token}
    {name : List Byte} (hS : S adv buf pos = k :: colon :: toks) (h1 : k.ty = .string) (h2 : colon.ty = .colon)
    (h3 : parseStringBytes k.bytes = some name) :
    ∃ w1 ks w2 r pos', buf = w1 ++ ks ++ w2 ++ 58 :: r ∧ AllWs w1 ∧ AllWs w2 ∧ IsString ks name ∧
      toks = S adv r pos' := by
  obtain ⟨w1, buf2, pos1, rfl, hw1, hr1⟩ := S_inv_lit hS (Or.inl h1)
  obtain ⟨ks, kw, hkb, hkw, hkstr⟩ := string_token_sound h3
  obtain ⟨w2, r2, pos2, rfl, hw2, hr2⟩ := S_inv_punct 58 rfl hr1.symm h2
  exact ⟨w1, ks, kw ++ w2, r2, pos2, by rw [hkb]; simp, hw1, allWs_append hkw hw2, hkstr, hr2⟩

/-- a value followed by the separator `c`: the whitespace before `c` is joined to that behind the value -/
theorem value_sep_sound {adv : List Byte → Nat} {buf : List Byte} {n : Node} {sep : Token} {rest : List Token}
    (c : Byte) {ty : TT} (hc : punct c = some ty) (hv : Res.spelt adv buf (sep :: rest) (.v n)) (hty : sep.ty = ty) :
    ∃ w v w' r pos', buf = w ++ v ++ w' ++ c :: r ∧ AllWs w ∧ AllWs w' ∧ Value v n ∧ rest = S adv r pos' := by
  obtain ⟨w, v, w', buf', pos1, rfl, hw, hw', hv, hr⟩ := hv
  obtain ⟨w2, r, pos2, rfl, hw2, hr2⟩ := S_inv_punct c hc hr.symm hty
  exact ⟨w, v, w' ++ w2, r, pos2, by simp, hw, allWs_append hw' hw2, hv, hr2⟩

theorem run_sound (adv : List Byte → Nat) {toks : List Token} {r : Res} {ts : List Token} (h : Run toks r ts) :
    ∀ buf pos, S adv buf pos = toks → r.spelt adv buf ts := by
  induction h with
  | emptyObj t c rest h1 h2 =>
    intro buf pos hS
    obtain ⟨w, r, pos1, rfl, hw, hr⟩ := S_inv_punct 123 rfl hS h1
    obtain ⟨w', r', pos2, rfl, hw', hr'⟩ := S_inv_punct 125 rfl hr.symm h2
    exact ⟨w, 123 :: w' ++ [125], [], r', pos2, by simp, hw, allWs_nil, Value.emptyObj w' hw', hr'⟩
  | obj t c rest ts ms h1 h2 _ ih =>
    intro buf pos hS
    obtain ⟨w, r, pos1, rfl, hw, hr⟩ := S_inv_punct 123 rfl hS h1
    obtain ⟨body, buf', pos2, rfl, hm, hts⟩ := ih _ _ hr.symm
    exact ⟨w, 123 :: body ++ [125], [], buf', pos2, by simp, hw, allWs_nil, Value.obj body ms hm, hts⟩
  | emptyArr t c rest h1 h2 =>
    intro buf pos hS
    obtain ⟨w, r, pos1, rfl, hw, hr⟩ := S_inv_punct 91 rfl hS h1
    obtain ⟨w', r', pos2, rfl, hw', hr'⟩ := S_inv_punct 93 rfl hr.symm h2
    exact ⟨w, 91 :: w' ++ [93], [], r', pos2, by simp, hw, allWs_nil, Value.emptyArr w' hw', hr'⟩
  | arr t c rest ts ns h1 h2 _ ih =>
    intro buf pos hS
    obtain ⟨w, r, pos1, rfl, hw, hr⟩ := S_inv_punct 91 rfl hS h1
    obtain ⟨body, buf', pos2, rfl, he, hts⟩ := ih _ _ hr.symm
    exact ⟨w, 91 :: body ++ [93], [], buf', pos2, by simp, hw, allWs_nil, Value.arr body ns he, hts⟩
  | num t rest m e h1 h2 =>
    exact fun buf pos hS => token_value_sound hS (.inr (.inl h1)) (List.append_nil _).symm allWs_nil
      (.vnum _ _ _ (parseNumberBytes_sound h2))
  | str t rest d h1 h2 =>
    intro buf pos hS
    obtain ⟨s, w', hb, hw', hstr⟩ := string_token_sound h2
    exact token_value_sound hS (.inl h1) hb hw' (.vstr _ _ hstr)
  | ktrue t rest h1 h2 =>
    exact fun buf pos hS => token_value_sound hS (.inr (.inr h1)) (List.append_nil _).symm allWs_nil (h2 ▸ .vtrue)
  | kfalse t rest h1 h2 =>
    exact fun buf pos hS => token_value_sound hS (.inr (.inr h1)) (List.append_nil _).symm allWs_nil (h2 ▸ .vfalse)
  | knull t rest h1 h2 =>
    exact fun buf pos hS => token_value_sound hS (.inr (.inr h1)) (List.append_nil _).symm allWs_nil (h2 ▸ .vnull)
  | elem toks v sep rest _ h2 ih =>
    intro buf pos hS
    obtain ⟨w, bv, w', r, pos', rfl, hw, hw', hv, hr⟩ := value_sep_sound 93 rfl (ih _ _ hS) h2
    exact ⟨w ++ bv ++ w', r, pos', rfl, Elems.one w bv w' v hw hw' hv, hr⟩
  | elems toks v sep rest ts ns _ h2 _ ih ih' =>
    intro buf pos hS
    obtain ⟨w, bv, w', r, pos1, rfl, hw, hw', hv, hr⟩ := value_sep_sound 44 rfl (ih _ _ hS) h2
    obtain ⟨body, buf', pos2, rfl, he, hts⟩ := ih' _ _ hr.symm
    exact ⟨w ++ bv ++ w' ++ 44 :: body, buf', pos2, by simp, Elems.cons w bv w' body v ns hw hw' hv he, hts⟩
  | member k colon toks name v sep rest h1 h2 h3 _ h5 ih =>
    intro buf pos hS
    obtain ⟨w1, ks, w2, r, pos1, rfl, hw1, hw2, hk, hr⟩ := key_colon_sound hS h1 h2 h3
    obtain ⟨w3, bv, w4, r', pos', rfl, hw3, hw4, hv, hr'⟩ := value_sep_sound 125 rfl (ih _ _ hr.symm) h5
    exact ⟨w1 ++ ks ++ w2 ++ 58 :: w3 ++ bv ++ w4, r', pos', by simp,
      Members.one w1 ks w2 w3 bv w4 name v hw1 hw2 hw3 hw4 hk hv, hr'⟩
  | members k colon toks name v sep rest ts ms h1 h2 h3 _ h5 _ ih ih' =>
    intro buf pos hS
    obtain ⟨w1, ks, w2, r, pos1, rfl, hw1, hw2, hk, hr⟩ := key_colon_sound hS h1 h2 h3
    obtain ⟨w3, bv, w4, r', pos2, rfl, hw3, hw4, hv, hr'⟩ := value_sep_sound 44 rfl (ih _ _ hr.symm) h5
    obtain ⟨body, buf', pos3, rfl, hm, hts⟩ := ih' _ _ hr'.symm
    exact ⟨w1 ++ ks ++ w2 ++ 58 :: w3 ++ bv ++ w4 ++ 44 :: body, buf', pos3, by simp,
      Members.cons w1 ks w2 w3 bv w4 body name v ms hw1 hw2 hw3 hw4 hk hv hm, hts⟩

theorem accept_sound (adv : List Byte → Nat) (bs : List Byte) (n : Node)
    (h : parseExpression adv bs = some n) : JsonText bs n := by
  unfold parseExpression at h
  rw [scan_eq_S] at h
  dsimp only at h
  split at h
  · rename_i n' t hpv
    split at h
    · rename_i hty
      cases h
      obtain ⟨w, v, w', buf', pos', hb, hw, hw', hv, hts⟩ := run_sound adv (parse_run _ _ (.v _) _ hpv) _ _ rfl
      exact ⟨w, v, w' ++ buf', by rw [hb]; simp, hw, allWs_append hw' (S_inv_eof hts.symm hty), hv⟩
    · cases h
  · cases h

/-- `parseValue` tells `[]` and `{}` from the other arrays and objects by peeking for `]` or `}` after the opening
    bracket, so `Run.arr` and `Run.obj` ask that the token there is neither: no run starts with one -/
theorem run_head {toks : List Token} {r : Res} {ts : List Token} (h : Run toks r ts) :
    ∃ t rest, toks = t :: rest ∧ t.ty ≠ .brackC ∧ t.ty ≠ .braceC := by
  induction h with
  | elem _ _ _ _ _ _ ih => exact ih
  | elems _ _ _ _ _ _ _ _ _ ih _ => exact ih
  -- in every other case the type of the first token is given
  | _ =>
    exact ⟨_, _, rfl, by simp only [*, ne_eq, reduceCtorEq, not_false_eq_true],
      by simp only [*, ne_eq, reduceCtorEq, not_false_eq_true]⟩

theorem follow_punct {w : List Byte} (hw : AllWs w) {c : Byte} {ty : TT} (hc : punct c = some ty) (r : List Byte) :
    Follow (w ++ c :: r) :=
  Follow.ws hw (Follow.cons _ (punct_class hc).2.1 (punct_class hc).2.2)

theorem S_punct_ws (adv : List Byte → Nat) {w : List Byte} (hw : AllWs w) {c : Byte} {ty : TT}
    (hc : punct c = some ty) (r : List Byte) (pos : Nat) :
    ∃ pos', S adv (w ++ c :: r) pos = ⟨ty, [c], pos + w.length⟩ :: S adv r pos' :=
  ⟨_, by rw [S_ws adv hw, S_punct adv hc]⟩

theorem S_string_ws (adv : List Byte → Nat) {w : List Byte} (hw : AllWs w) {k name : List Byte}
    (hk : IsString k name) (r : List Byte) (pos : Nat) :
    ∃ pos', S adv (w ++ (k ++ r)) pos = ⟨.string, k, pos + w.length⟩ :: S adv r pos' := by
  cases hk with
  | mk s d hc =>
    have : (34 :: s ++ [34]) ++ r = 34 :: s ++ 34 :: r := by simp
    exact ⟨_, by rw [S_ws adv hw, this, S_string adv (Chars.okBody hc)]⟩

theorem keyword_run (adv : List Byte → Nat) {b : Byte} {v' : List Byte} {n : Node} (hb : isAlpha b = true)
    (hv : ∀ x ∈ b :: v', isKeywordByte x = true)
    (hpv : ∀ t rest, t.ty = .keyword → t.bytes = b :: v' → Run (t :: rest) (.v n) rest)
    {rest : List Byte} (hf : Follow rest) (pos : Nat) :
    ∃ pos', Run (S adv (b :: v' ++ rest) pos) (.v n) (S adv rest pos') :=
  ⟨_, by rw [S_keyword adv hb hv hf]; exact hpv _ _ rfl rfl⟩

theorem S_key_colon (adv : List Byte → Nat) {w1 w2 k name : List Byte} (hw1 : AllWs w1) (hw2 : AllWs w2)
    (hk : IsString k name) (r : List Byte) (pos : Nat) :
    ∃ kt ct pos', kt.ty = .string ∧ kt.bytes = k ∧ ct.ty = .colon ∧
      S adv (w1 ++ (k ++ (w2 ++ 58 :: r))) pos = kt :: ct :: S adv r pos' := by
  obtain ⟨p1, hS1⟩ := S_string_ws adv hw1 hk (w2 ++ 58 :: r) pos
  obtain ⟨p2, hS2⟩ := S_punct_ws adv hw2 (c := 58) rfl r p1
  exact ⟨_, _, p2, rfl, rfl, rfl, by rw [hS1, hS2]⟩

theorem value_sep_run (adv : List Byte → Nat) {v : List Byte} {n : Node}
    (hV : ∀ rest pos, Follow rest → ∃ pos', Run (S adv (v ++ rest) pos) (.v n) (S adv rest pos'))
    {w1 w2 : List Byte} (hw1 : AllWs w1) (hw2 : AllWs w2) {c : Byte} {ty : TT} (hc : punct c = some ty)
    (r : List Byte) (pos : Nat) :
    ∃ sep pos', sep.ty = ty ∧ Run (S adv (w1 ++ (v ++ (w2 ++ c :: r))) pos) (.v n) (sep :: S adv r pos') := by
  obtain ⟨pos1, hV⟩ := hV (w2 ++ c :: r) (pos + w1.length) (follow_punct hw2 hc r)
  obtain ⟨pos2, hS⟩ := S_punct_ws adv hw2 hc r pos1
  rw [hS] at hV
  exact ⟨_, pos2, rfl, by rw [S_ws adv hw1]; exact hV⟩

/- A number or keyword token ends where its byte class ends, so a value is scanned as written only in front of a
   `Follow` rest.  `elems_run` and `members_run` need no such hypothesis: their statements carry the closing bracket,
   and each value inside is followed by whitespace and `,`, `]` or `}`, which is one (`follow_punct`). -/
mutual
theorem value_run (adv : List Byte → Nat) {v : List Byte} {n : Node} (h : Value v n)
    (rest : List Byte) (pos : Nat) (hf : Follow rest) :
    ∃ pos', Run (S adv (v ++ rest) pos) (.v n) (S adv rest pos') :=
  match h with
  | .vtrue => keyword_run adv (b := 116) (v' := [114, 117, 101]) (by decide) (by decide)
      (fun t rest => .ktrue t rest) hf pos
  | .vfalse => keyword_run adv (b := 102) (v' := [97, 108, 115, 101]) (by decide) (by decide)
      (fun t rest => .kfalse t rest) hf pos
  | .vnull => keyword_run adv (b := 110) (v' := [117, 108, 108]) (by decide) (by decide)
      (fun t rest => .knull t rest) hf pos
  | .vnum bs m e hn => by
    obtain ⟨⟨b, r, rfl, hb⟩, hall⟩ := IsNumber.scan_facts hn
    exact ⟨_, by rw [S_number adv hb hall hf]; exact .num _ _ _ _ rfl (parseNumberBytes_complete hn)⟩
  | .vstr bs d hstr => by
    obtain ⟨pos', hS⟩ := S_string_ws adv (w := []) allWs_nil hstr rest pos
    rw [List.nil_append] at hS
    exact ⟨pos', by rw [hS]; exact .str _ _ _ rfl (parseStringBytes_complete hstr)⟩
  | .emptyArr w hw => by
    obtain ⟨pos', hS⟩ := S_punct_ws adv hw (c := 93) rfl rest (pos + 1)
    refine ⟨pos', ?_⟩
    simp only [List.append_assoc, List.cons_append, List.nil_append]
    rw [S_punct adv (b := 91) rfl, hS]
    exact .emptyArr _ _ _ rfl rfl
  | .arr body vs he => by
    obtain ⟨pos', hE⟩ := elems_run adv he rest (pos + 1)
    obtain ⟨t, ts, hts, hne, _⟩ := run_head hE
    refine ⟨pos', ?_⟩
    simp only [List.append_assoc, List.cons_append, List.nil_append]
    rw [S_punct adv (b := 91) rfl]
    rw [hts] at hE ⊢
    exact .arr _ _ _ _ _ rfl hne hE
  | .emptyObj w hw => by
    obtain ⟨pos', hS⟩ := S_punct_ws adv hw (c := 125) rfl rest (pos + 1)
    refine ⟨pos', ?_⟩
    simp only [List.append_assoc, List.cons_append, List.nil_append]
    rw [S_punct adv (b := 123) rfl, hS]
    exact .emptyObj _ _ _ rfl rfl
  | .obj body ms hm => by
    obtain ⟨pos', hM⟩ := members_run adv hm rest (pos + 1)
    obtain ⟨t, ts, hts, _, hne⟩ := run_head hM
    refine ⟨pos', ?_⟩
    simp only [List.append_assoc, List.cons_append, List.nil_append]
    rw [S_punct adv (b := 123) rfl]
    rw [hts] at hM ⊢
    exact .obj _ _ _ _ _ rfl hne hM

theorem elems_run (adv : List Byte → Nat) {body : List Byte} {ns : List Node}
    (h : Elems body ns) (rest : List Byte) (pos : Nat) :
    ∃ pos', Run (S adv (body ++ 93 :: rest) pos) (.e ns) (S adv rest pos') :=
  match h with
  | .one w1 v w2 n hw1 hw2 hv => by
    obtain ⟨sep, pos', hty, hV⟩ := value_sep_run adv (value_run adv hv) hw1 hw2 (c := 93) rfl rest pos
    refine ⟨pos', ?_⟩
    simp only [List.append_assoc]
    exact .elem _ _ _ _ hV hty
  | .cons w1 v w2 r n ns' hw1 hw2 hv he => by
    obtain ⟨sep, pos1, hty, hV⟩ := value_sep_run adv (value_run adv hv) hw1 hw2 (c := 44) rfl (r ++ 93 :: rest) pos
    obtain ⟨pos2, hE⟩ := elems_run adv he rest pos1
    refine ⟨pos2, ?_⟩
    simp only [List.append_assoc, List.cons_append]
    exact .elems _ _ _ _ _ _ hV hty hE

theorem members_run (adv : List Byte → Nat) {body : List Byte}
    {ms : List (List Byte × Node)} (h : Members body ms) (rest : List Byte) (pos : Nat) :
    ∃ pos', Run (S adv (body ++ 125 :: rest) pos) (.m ms) (S adv rest pos') :=
  match h with
  | .one w1 k w2 w3 v w4 name n hw1 hw2 hw3 hw4 hk hv => by
    obtain ⟨kt, ct, p1, hkt, hkb, hct, hS⟩ := S_key_colon adv hw1 hw2 hk (w3 ++ (v ++ (w4 ++ 125 :: rest))) pos
    obtain ⟨sep, pos', hty, hV⟩ := value_sep_run adv (value_run adv hv) hw3 hw4 (c := 125) rfl rest p1
    refine ⟨pos', ?_⟩
    simp only [List.append_assoc, List.cons_append]
    rw [hS]
    exact .member _ _ _ _ _ _ _ hkt hct (hkb ▸ parseStringBytes_complete hk) hV hty
  | .cons w1 k w2 w3 v w4 r name n ms' hw1 hw2 hw3 hw4 hk hv hm => by
    obtain ⟨kt, ct, p1, hkt, hkb, hct, hS⟩ :=
      S_key_colon adv hw1 hw2 hk (w3 ++ (v ++ (w4 ++ 44 :: (r ++ 125 :: rest)))) pos
    obtain ⟨sep, p2, hty, hV⟩ :=
      value_sep_run adv (value_run adv hv) hw3 hw4 (c := 44) rfl (r ++ 125 :: rest) p1
    obtain ⟨p3, hM⟩ := members_run adv hm rest p2
    refine ⟨p3, ?_⟩
    simp only [List.append_assoc, List.cons_append]
    rw [hS]
    exact .members _ _ _ _ _ _ _ _ _ hkt hct (hkb ▸ parseStringBytes_complete hk) hV hty hM
end

theorem complete_elems (adv : List Byte → Nat) {body : List Byte} {ns : List Node}
    (h : Elems body ns) (rest : List Byte) (pos : Nat) :
    ∃ f pos', parseElems f (S adv (body ++ 93 :: rest) pos) = some (ns, S adv rest pos') :=
  let ⟨pos', hE⟩ := elems_run adv h rest pos
  ⟨_, pos', (run_fuel hE).2 _ (Nat.le_add_left _ _)⟩

theorem complete_members (adv : List Byte → Nat) {body : List Byte}
    {ms : List (List Byte × Node)} (h : Members body ms) (rest : List Byte) (pos : Nat) :
    ∃ f pos', parseMembers f (S adv (body ++ 125 :: rest) pos) = some (ms, S adv rest pos') :=
  let ⟨pos', hM⟩ := members_run adv h rest pos
  ⟨_, pos', (run_fuel hM).2 _ (Nat.le_add_left _ _)⟩

theorem accept_complete (adv : List Byte → Nat) (bs : List Byte) (n : Node)
    (h : JsonText bs n) : parseExpression adv bs = some n := by
  obtain ⟨w1, v, w2, rfl, hw1, hw2, hv⟩ := h
  have hf : Follow w2 := by
    have := Follow.ws hw2 Follow.nil
    rwa [List.append_nil] at this
  obtain ⟨pos', hV⟩ := value_run adv hv w2 (0 + w1.length) hf
  have hw2' : S adv w2 pos' = [⟨.eof, [], pos' + w2.length⟩] := by
    have := S_ws adv hw2 [] pos'
    rwa [List.append_nil, S_nil] at this
  rw [hw2'] at hV
  have hS : scan adv (w1 ++ v ++ w2) = S adv (v ++ w2) (0 + w1.length) := by
    rw [scan_eq_S, List.append_assoc, S_ws adv hw1]
  unfold parseExpression
  rw [hS]
  dsimp only
  rw [show parseValue _ _ = _ from (run_fuel hV).2 _ (Nat.le_trans (Nat.le_succ _) (Nat.le_add_left _ _))]
  rfl

theorem file_accept_iff (adv : List Byte → Nat) (bs : List Byte) (n : Node) :
    parseFile adv bs = some n ↔ (JsonText bs n ∧ ((∃ a, n = .obj a) ∨ (∃ a, n = .arr a))) := by
  constructor
  · intro h
    unfold parseFile at h
    split at h
    · rename_i a ha
      cases h
      exact ⟨accept_sound adv bs _ ha, Or.inl ⟨a, rfl⟩⟩
    · rename_i a ha
      cases h
      exact ⟨accept_sound adv bs _ ha, Or.inr ⟨a, rfl⟩⟩
    · cases h
  · rintro ⟨hj, ho⟩
    have := accept_complete adv bs n hj
    unfold parseFile
    rw [this]
    rcases ho with ⟨a, rfl⟩ | ⟨a, rfl⟩ <;> rfl

end HclModel.Json.Proofs
