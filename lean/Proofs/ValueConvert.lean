import Proofs.ValueBasics
/-!
What `convert` does, independently of any analysis: the shape of a successful conversion by the constructor of
the value converted, and what it keeps.  The analyses rest on these lemmas and do not unfold `convert`.
-/
namespace HclModel.Proofs
open Val

theorem bind_eq_ok {α β ε : Type} {e : Except ε α} {f : α → Except ε β} {x : β} :
    (e >>= f = .ok x) ↔ ∃ v, e = .ok v ∧ f v = .ok x := by
  cases e <;> simp [bind, Except.bind]

theorem emap_bind_pure {α β γ ε : Type} (h : β → γ) (e : Except ε α) (k : α → β) :
    Except.map h (e >>= fun y => pure (k y)) = e >>= fun y => pure (h (k y)) := by
  cases e <;> rfl

/-- two steps and a pure combination: the shape of the `cons` case of the list forms of `convert` -/
theorem bind2_eq_ok {α β γ ε : Type} {e₁ : Except ε α} {e₂ : Except ε β} {f : α → β → γ} {r : γ} :
    (do let y ← e₁; let ys ← e₂; pure (f y ys)) = Except.ok r ↔
      ∃ y ys, e₁ = .ok y ∧ e₂ = .ok ys ∧ r = f y ys := by
  cases e₁ <;> cases e₂ <;> simp [bind, Except.bind, pure, Except.pure, eq_comm]

theorem sameKeys_self : ∀ xs : List (String × Val), sameKeys xs (typeOfFields xs) = true
  | [] => rfl
  | (k, x) :: xs => by simp [sameKeys, typeOfFields, sameKeys_self xs]

theorem convertList_nil (t : Ty) : convertList [] t = .ok [] := by
  rw [convertList.eq_def]; rfl

theorem convertList_cons_ok {x : Val} {xs : List Val} {t : Ty} {r : List Val} :
    convertList (x :: xs) t = .ok r ↔
      t ≠ .dyn ∧ ∃ y ys, convert x t = .ok y ∧ convertList xs t = .ok ys ∧ r = y :: ys := by
  rw [convertList.eq_def]
  by_cases ht : t = .dyn
  · subst ht; simp [bind, Except.bind, throw, throwThe, MonadExceptOf.throw]
  · simpa [ht] using bind2_eq_ok

theorem convertFields_nil (t : Ty) : convertFields [] t = .ok [] := by
  rw [convertFields.eq_def]; rfl

theorem convertFields_cons_ok {k : String} {x : Val} {xs : List (String × Val)} {t : Ty}
    {r : List (String × Val)} :
    convertFields ((k, x) :: xs) t = .ok r ↔
      t ≠ .dyn ∧ ∃ y ys, convert x t = .ok y ∧ convertFields xs t = .ok ys ∧ r = (k, y) :: ys := by
  rw [convertFields.eq_def]
  by_cases ht : t = .dyn
  · subst ht; simp [bind, Except.bind, throw, throwThe, MonadExceptOf.throw]
  · simpa [ht] using bind2_eq_ok

theorem convertPair_nil_left (ts : List Ty) : convertPair [] ts = .ok [] := by
  rw [convertPair.eq_def]; rfl
theorem convertPair_nil_right (xs : List Val) : convertPair xs [] = .ok [] := by
  rw [convertPair.eq_def]; cases xs <;> rfl

theorem convertPair_cons_ok {x : Val} {xs : List Val} {t : Ty} {ts : List Ty} {r : List Val} :
    convertPair (x :: xs) (t :: ts) = .ok r ↔
      ∃ y ys, convert x t = .ok y ∧ convertPair xs ts = .ok ys ∧ r = y :: ys := by
  rw [convertPair.eq_def]; exact bind2_eq_ok

theorem convertFieldsTo_nil_left (ts : List (String × Ty)) : convertFieldsTo [] ts = .ok [] := by
  rw [convertFieldsTo.eq_def]; rfl
theorem convertFieldsTo_nil_right (xs : List (String × Val)) : convertFieldsTo xs [] = .ok [] := by
  rw [convertFieldsTo.eq_def]; cases xs <;> rfl

theorem convertFieldsTo_cons_ok {k l : String} {x : Val} {xs : List (String × Val)} {t : Ty}
    {ts : List (String × Ty)} {r : List (String × Val)} :
    convertFieldsTo ((k, x) :: xs) ((l, t) :: ts) = .ok r ↔
      ∃ y ys, convert x t = .ok y ∧ convertFieldsTo xs ts = .ok ys ∧ r = (k, y) :: ys := by
  rw [convertFieldsTo.eq_def]; exact bind2_eq_ok

theorem convertPair_of_convertList {t : Ty} : ∀ {xs ys : List Val}, convertList xs t = .ok ys →
    convertPair xs (List.replicate xs.length t) = .ok ys
  | [], _, h => by rw [convertList_nil] at h; rw [convertPair_nil_left]; exact h
  | x :: xs, _, h => by
    obtain ⟨_, y, ys, hy, hys, rfl⟩ := convertList_cons_ok.mp h
    exact convertPair_cons_ok.mpr ⟨y, ys, hy, convertPair_of_convertList hys, rfl⟩

theorem convertFieldsTo_of_convertFields {t : Ty} : ∀ {xs ys : List (String × Val)}, convertFields xs t = .ok ys →
    convertFieldsTo xs (xs.map fun p => (p.1, t)) = .ok ys
  | [], _, h => by rw [convertFields_nil] at h; rw [convertFieldsTo_nil_left]; exact h
  | (k, x) :: xs, _, h => by
    obtain ⟨_, y, ys, hy, hys, rfl⟩ := convertFields_cons_ok.mp h
    exact convertFieldsTo_cons_ok.mpr ⟨y, ys, hy, convertFieldsTo_of_convertFields hys, rfl⟩

theorem convert_same (v : Val) (t : Ty) (h : v.typeOf = t) : convert v t = .ok v := by
  rw [convert.eq_def]; simp [h]; rfl

theorem convert_dyn (v : Val) : convert v .dyn = .ok v := by
  rw [convert.eq_def]
  by_cases h : (v.typeOf == Ty.dyn) = true
  · rw [if_pos h]; rfl
  · rw [if_neg h]; rfl

theorem convertPair_self : ∀ xs : List Val, convertPair xs (typeOfList xs) = .ok xs
  | [] => convertPair_nil_left _
  | x :: xs => convertPair_cons_ok.mpr ⟨x, xs, convert_same x _ rfl, convertPair_self xs, rfl⟩

theorem convertFieldsTo_self : ∀ xs : List (String × Val), convertFieldsTo xs (typeOfFields xs) = .ok xs
  | [] => convertFieldsTo_nil_left _
  | (_, x) :: xs => convertFieldsTo_cons_ok.mpr ⟨x, xs, convert_same x _ rfl, convertFieldsTo_self xs, rfl⟩

theorem convertible_dyn (T : Ty) : convertible .dyn T = some true := by
  cases T <;> simp only [convertible]

theorem convert_null_dyn (f : Fl) {T : Ty} (hd : T ≠ .dyn) : convert (.null f .dyn) T = .ok (.null f T) := by
  rw [convert.eq_def, if_neg]
  · cases T with
    | dyn => exact absurd rfl hd
    | _ => simp only [convertible_dyn]; rfl
  · exact fun h => hd (eq_of_beq h).symm

theorem convert_tuple_list (f : Fl) (xs : List Val) (b : Ty) :
    convert (.tuple f xs) (.list b) = (convertList xs b >>= fun ys => pure (.list f b ys)) := by
  rw [convert.eq_def, if_neg]
  exact Bool.false_ne_true

theorem convert_object_map (f : Fl) (kvs : List (String × Val)) (b : Ty) :
    convert (.object f kvs) (.map b) = (convertFields kvs b >>= fun ys => pure (.map f b ys)) := by
  rw [convert.eq_def, if_neg]
  exact Bool.false_ne_true

theorem convert_unk_inv {f : Fl} {s t : Ty} {v' : Val} (h : convert (.unk f s) t = .ok v') :
    (t = .dyn ∧ v' = .unk f s) ∨ v' = .unk f t := by
  rw [convert.eq_def] at h
  by_cases hty : s = t
  · subst hty; simp [typeOf, pure, Except.pure] at h; exact Or.inr h.symm
  · have : (typeOf (.unk f s) == t) = false := by simpa [typeOf] using hty
    simp only [this] at h
    cases t <;> simp [pure, Except.pure] at h
    case dyn => exact Or.inl ⟨rfl, h.symm⟩
    all_goals (split at h <;> simp [throw, throwThe, MonadExceptOf.throw] at h; exact Or.inr h.symm)

theorem convert_null_inv {f : Fl} {s t : Ty} {v' : Val} (h : convert (.null f s) t = .ok v') :
    (t = .dyn ∧ v' = .null f s) ∨ v' = .null f t := by
  rw [convert.eq_def] at h
  by_cases hty : s = t
  · subst hty; simp [typeOf, pure, Except.pure] at h; exact Or.inr h.symm
  · have : (typeOf (.null f s) == t) = false := by simpa [typeOf] using hty
    simp only [this] at h
    cases t <;> simp [pure, Except.pure] at h
    case dyn => exact Or.inl ⟨rfl, h.symm⟩
    all_goals (split at h <;> simp [throw, throwThe, MonadExceptOf.throw] at h; exact Or.inr h.symm)

theorem convert_str_inv {f : Fl} {s : String} {t : Ty} {v' : Val} (h : convert (.str f s) t = .ok v') :
    ((t = .dyn ∨ t = .str) ∧ v' = .str f s) ∨ (t = .num ∧ ∃ q, v' = .num f q) ∨
      (t = .bool ∧ ∃ b, v' = .bool f b) := by
  rw [convert.eq_def] at h
  cases t <;> simp [typeOf, pure, Except.pure, throw, throwThe, MonadExceptOf.throw] at h
  case str => exact Or.inl ⟨Or.inr rfl, h.symm⟩
  case dyn => exact Or.inl ⟨Or.inl rfl, h.symm⟩
  case num => split at h <;> cases h; exact Or.inr (Or.inl ⟨rfl, _, rfl⟩)
  case bool =>
    refine Or.inr (Or.inr ⟨rfl, ?_⟩)
    split at h
    · cases h; exact ⟨_, rfl⟩
    · split at h <;> cases h; exact ⟨_, rfl⟩

theorem convert_num_inv {f : Fl} {q : Rat} {t : Ty} {v' : Val} (h : convert (.num f q) t = .ok v') :
    ((t = .dyn ∨ t = .num) ∧ v' = .num f q) ∨ (t = .str ∧ ∃ s, v' = .str f s) := by
  rw [convert.eq_def] at h
  cases t <;> simp [typeOf, pure, Except.pure, throw, throwThe, MonadExceptOf.throw] at h
  case num => exact Or.inl ⟨Or.inr rfl, h.symm⟩
  case dyn => exact Or.inl ⟨Or.inl rfl, h.symm⟩
  case str => split at h <;> cases h; exact Or.inr ⟨rfl, _, rfl⟩

theorem convert_bool_inv {f : Fl} {b : Bool} {t : Ty} {v' : Val} (h : convert (.bool f b) t = .ok v') :
    ((t = .dyn ∨ t = .bool) ∧ v' = .bool f b) ∨ (t = .str ∧ ∃ s, v' = .str f s) := by
  rw [convert.eq_def] at h
  cases t <;> simp [typeOf, pure, Except.pure, throw, throwThe, MonadExceptOf.throw] at h
  case bool => exact Or.inl ⟨Or.inr rfl, h.symm⟩
  case dyn => exact Or.inl ⟨Or.inl rfl, h.symm⟩
  case str => exact Or.inr ⟨rfl, _, h.symm⟩

theorem convert_list_inv {f : Fl} {u t : Ty} {xs : List Val} {v' : Val}
    (h : convert (.list f u xs) t = .ok v') :
    ((t = .dyn ∨ t = .list u) ∧ v' = .list f u xs) ∨
      (∃ b ys, t = .list b ∧ convertList xs b = .ok ys ∧ v' = .list f b ys) := by
  by_cases hty : Ty.list u = t
  · subst hty; rw [convert_same _ _ (by simp [typeOf])] at h; cases h; exact Or.inl ⟨Or.inr rfl, rfl⟩
  · have h1 : (typeOf (.list f u xs) == t) = false := by simpa [typeOf] using hty
    rw [convert.eq_def] at h
    simp only [h1] at h
    cases t <;> simp [pure, Except.pure, throw, throwThe, MonadExceptOf.throw, Ty.isPrim] at h
    case dyn => exact Or.inl ⟨Or.inl rfl, h.symm⟩
    case list b =>
      obtain ⟨ys, hys, h⟩ := bind_eq_ok.mp h
      simp at h
      exact Or.inr ⟨b, ys, rfl, hys, h.symm⟩

theorem convert_map_inv {f : Fl} {u t : Ty} {xs : List (String × Val)} {v' : Val}
    (h : convert (.map f u xs) t = .ok v') :
    ((t = .dyn ∨ t = .map u) ∧ v' = .map f u xs) ∨
      (∃ b ys, t = .map b ∧ convertFields xs b = .ok ys ∧ v' = .map f b ys) := by
  by_cases hty : Ty.map u = t
  · subst hty; rw [convert_same _ _ (by simp [typeOf])] at h; cases h; exact Or.inl ⟨Or.inr rfl, rfl⟩
  · have h1 : (typeOf (.map f u xs) == t) = false := by simpa [typeOf] using hty
    rw [convert.eq_def] at h
    simp only [h1] at h
    cases t <;> simp [pure, Except.pure, throw, throwThe, MonadExceptOf.throw, Ty.isPrim] at h
    case dyn => exact Or.inl ⟨Or.inl rfl, h.symm⟩
    case map b =>
      obtain ⟨ys, hys, h⟩ := bind_eq_ok.mp h
      simp at h
      exact Or.inr ⟨b, ys, rfl, hys, h.symm⟩

/-- The shortcut for a tuple that already has the type asked for is a conversion element by element too
    (`convertPair_self`), so it needs no case of its own. -/
theorem convert_tuple_inv {f : Fl} {t : Ty} {xs : List Val} {v' : Val}
    (h : convert (.tuple f xs) t = .ok v') :
    (t = .dyn ∧ v' = .tuple f xs) ∨
      (∃ b ys, t = .list b ∧ convertList xs b = .ok ys ∧ v' = .list f b ys) ∨
      (∃ bs ys, t = .tuple bs ∧ xs.length = bs.length ∧ convertPair xs bs = .ok ys ∧ v' = .tuple f ys) := by
  by_cases hty : Ty.tuple (typeOfList xs) = t
  · subst hty; rw [convert_same _ _ (by simp [typeOf])] at h; cases h
    exact Or.inr (Or.inr ⟨_, _, rfl, (typeOfList_length xs).symm, convertPair_self xs, rfl⟩)
  · have h1 : (typeOf (.tuple f xs) == t) = false := by simpa [typeOf] using hty
    rw [convert.eq_def] at h
    simp only [h1] at h
    cases t <;> simp [pure, Except.pure, throw, throwThe, MonadExceptOf.throw, Ty.isPrim] at h
    case dyn => exact Or.inl ⟨rfl, h.symm⟩
    case list b =>
      obtain ⟨ys, hys, h⟩ := bind_eq_ok.mp h
      simp at h
      exact Or.inr (Or.inl ⟨b, ys, rfl, hys, h.symm⟩)
    case tuple bs =>
      split at h
      · rename_i hl
        obtain ⟨ys, hys, h⟩ := bind_eq_ok.mp h
        simp at h
        exact Or.inr (Or.inr ⟨bs, ys, rfl, hl, hys, h.symm⟩)
      · simp at h

theorem convert_object_inv {f : Fl} {t : Ty} {xs : List (String × Val)} {v' : Val}
    (h : convert (.object f xs) t = .ok v') :
    (t = .dyn ∧ v' = .object f xs) ∨
      (∃ b ys, t = .map b ∧ convertFields xs b = .ok ys ∧ v' = .map f b ys) ∨
      (∃ gs ys, t = .object gs ∧ sameKeys xs gs = true ∧ convertFieldsTo xs gs = .ok ys ∧ v' = .object f ys) := by
  by_cases hty : Ty.object (typeOfFields xs) = t
  · subst hty; rw [convert_same _ _ (by simp [typeOf])] at h; cases h
    exact Or.inr (Or.inr ⟨_, _, rfl, sameKeys_self xs, convertFieldsTo_self xs, rfl⟩)
  · have h1 : (typeOf (.object f xs) == t) = false := by simpa [typeOf] using hty
    rw [convert.eq_def] at h
    simp only [h1] at h
    cases t <;> simp [pure, Except.pure, throw, throwThe, MonadExceptOf.throw, Ty.isPrim] at h
    case dyn => exact Or.inl ⟨rfl, h.symm⟩
    case map b =>
      obtain ⟨ys, hys, h⟩ := bind_eq_ok.mp h
      simp at h
      exact Or.inr (Or.inl ⟨b, ys, rfl, hys, h.symm⟩)
    case object gs =>
      split at h
      · rename_i hl
        obtain ⟨ys, hys, h⟩ := bind_eq_ok.mp h
        simp at h
        exact Or.inr (Or.inr ⟨gs, ys, rfl, hl, hys, h.symm⟩)
      · simp at h

theorem convert_of_dyn_or_same {v : Val} {t : Ty} (h : t = .dyn ∨ t = v.typeOf) : convert v t = .ok v := by
  rcases h with rfl | rfl
  · exact convert_dyn v
  · exact convert_same v _ rfl

/- Two values with the same constructor (and, for lists and maps, the same element type) that are converted to
   the same type go through the same branch of `convert`: which branch is taken depends on the constructor, the
   element type and the target type only. -/

theorem convert_list_both {f g : Fl} {u t : Ty} {xs ys : List Val} {x y : Val}
    (hx : convert (.list f u xs) t = .ok x) (hy : convert (.list g u ys) t = .ok y) :
    (x = .list f u xs ∧ y = .list g u ys) ∨
      ∃ b xs' ys', t = .list b ∧ convertList xs b = .ok xs' ∧ convertList ys b = .ok ys' ∧
        x = .list f b xs' ∧ y = .list g b ys' := by
  by_cases ht : t = .dyn ∨ t = .list u
  · rw [convert_of_dyn_or_same ht] at hx hy; cases hx; cases hy; exact Or.inl ⟨rfl, rfl⟩
  · rcases convert_list_inv hx with ⟨h, _⟩ | ⟨b, xs', rfl, hxs, rfl⟩
    · exact absurd h ht
    · rcases convert_list_inv hy with ⟨h, _⟩ | ⟨_, ys', hb, hys, rfl⟩
      · exact absurd h ht
      · cases hb; exact Or.inr ⟨b, xs', ys', rfl, hxs, hys, rfl, rfl⟩

theorem convert_map_both {f g : Fl} {u t : Ty} {xs ys : List (String × Val)} {x y : Val}
    (hx : convert (.map f u xs) t = .ok x) (hy : convert (.map g u ys) t = .ok y) :
    (x = .map f u xs ∧ y = .map g u ys) ∨
      ∃ b xs' ys', t = .map b ∧ convertFields xs b = .ok xs' ∧ convertFields ys b = .ok ys' ∧
        x = .map f b xs' ∧ y = .map g b ys' := by
  by_cases ht : t = .dyn ∨ t = .map u
  · rw [convert_of_dyn_or_same ht] at hx hy; cases hx; cases hy; exact Or.inl ⟨rfl, rfl⟩
  · rcases convert_map_inv hx with ⟨h, _⟩ | ⟨b, xs', rfl, hxs, rfl⟩
    · exact absurd h ht
    · rcases convert_map_inv hy with ⟨h, _⟩ | ⟨_, ys', hb, hys, rfl⟩
      · exact absurd h ht
      · cases hb; exact Or.inr ⟨b, xs', ys', rfl, hxs, hys, rfl, rfl⟩

theorem convert_tuple_both {f g : Fl} {t : Ty} {xs ys : List Val} {x y : Val}
    (hx : convert (.tuple f xs) t = .ok x) (hy : convert (.tuple g ys) t = .ok y) :
    (x = .tuple f xs ∧ y = .tuple g ys) ∨
      (∃ b xs' ys', t = .list b ∧ convertList xs b = .ok xs' ∧ convertList ys b = .ok ys' ∧
        x = .list f b xs' ∧ y = .list g b ys') ∨
      (∃ bs xs' ys', t = .tuple bs ∧ convertPair xs bs = .ok xs' ∧ convertPair ys bs = .ok ys' ∧
        x = .tuple f xs' ∧ y = .tuple g ys') := by
  rcases convert_tuple_inv hx with ⟨rfl, rfl⟩ | ⟨b, xs', rfl, hxs, rfl⟩ | ⟨bs, xs', rfl, _, hxs, rfl⟩
  · rw [convert_dyn] at hy; cases hy; exact Or.inl ⟨rfl, rfl⟩
  · rcases convert_tuple_inv hy with ⟨ht, _⟩ | ⟨_, ys', hb, hys, rfl⟩ | ⟨_, _, ht, _⟩ <;> try cases ht
    cases hb; exact Or.inr (Or.inl ⟨b, xs', ys', rfl, hxs, hys, rfl, rfl⟩)
  · rcases convert_tuple_inv hy with ⟨ht, _⟩ | ⟨_, _, ht, _⟩ | ⟨_, ys', hb, _, hys, rfl⟩ <;> try cases ht
    cases hb; exact Or.inr (Or.inr ⟨bs, xs', ys', rfl, hxs, hys, rfl, rfl⟩)

theorem convert_object_both {f g : Fl} {t : Ty} {xs ys : List (String × Val)} {x y : Val}
    (hx : convert (.object f xs) t = .ok x) (hy : convert (.object g ys) t = .ok y) :
    (x = .object f xs ∧ y = .object g ys) ∨
      (∃ b xs' ys', t = .map b ∧ convertFields xs b = .ok xs' ∧ convertFields ys b = .ok ys' ∧
        x = .map f b xs' ∧ y = .map g b ys') ∨
      (∃ bs xs' ys', t = .object bs ∧ convertFieldsTo xs bs = .ok xs' ∧ convertFieldsTo ys bs = .ok ys' ∧
        x = .object f xs' ∧ y = .object g ys') := by
  rcases convert_object_inv hx with ⟨rfl, rfl⟩ | ⟨b, xs', rfl, hxs, rfl⟩ | ⟨bs, xs', rfl, _, hxs, rfl⟩
  · rw [convert_dyn] at hy; cases hy; exact Or.inl ⟨rfl, rfl⟩
  · rcases convert_object_inv hy with ⟨ht, _⟩ | ⟨_, ys', hb, hys, rfl⟩ | ⟨_, _, ht, _⟩ <;> try cases ht
    cases hb; exact Or.inr (Or.inl ⟨b, xs', ys', rfl, hxs, hys, rfl, rfl⟩)
  · rcases convert_object_inv hy with ⟨ht, _⟩ | ⟨_, _, ht, _⟩ | ⟨_, ys', hb, _, hys, rfl⟩ <;> try cases ht
    cases hb; exact Or.inr (Or.inr ⟨bs, xs', ys', rfl, hxs, hys, rfl, rfl⟩)

theorem convert_setFl (a : Val) (t : Ty) (g : Fl) :
    convert (a.setFl g) t = (convert a t).map (·.setFl g) := by
  by_cases h : t = .dyn ∨ t = a.typeOf
  · rw [convert_of_dyn_or_same h, convert_of_dyn_or_same (typeOf_setFl a g ▸ h)]; rfl
  · have h1 : ¬(a.typeOf == t) = true := fun e => h (.inr (eq_of_beq e).symm)
    rw [convert.eq_def, convert.eq_def, typeOf_setFl, if_neg h1, if_neg h1]
    split
    · exact absurd (.inl rfl) h
    · -- both sides branch in the same way, on `t` and on what the content of `a` converts to, and the flags are
      -- put on last: the same term on both sides, except where a collection is converted to a collection, and
      -- there the flags are put on under the `bind` on one side and over it on the other
      cases a with
      | unk | null | str | num | bool =>
        simp only [setFl]
        repeat' split
        all_goals rfl
      | list | map =>
        simp only [setFl]; split
        · symm; exact emap_bind_pure _ _ _
        · split <;> rfl
      | tuple | object =>
        simp only [setFl]; split
        · symm; exact emap_bind_pure _ _ _
        · split
          · symm; exact emap_bind_pure _ _ _
          · rfl
        · split <;> rfl

theorem convert_leaf {a : Val} {t : Ty} {x : Val} (hl : isLeaf a = true) (h : convert a t = .ok x) :
    isLeaf x = true ∧ x.fl = a.fl ∧ x.isKnown = a.isKnown ∧ x.isNull = a.isNull ∧
      ((t = .dyn ∧ x = a) ∨ typeOf x = t) := by
  cases a <;> try (simp [isLeaf] at hl; done)
  · rcases convert_unk_inv h with ⟨rfl, rfl⟩ | rfl <;> simp [isLeaf, Val.fl, isKnown, isNull, typeOf]
  · rcases convert_null_inv h with ⟨rfl, rfl⟩ | rfl <;> simp [isLeaf, Val.fl, isKnown, isNull, typeOf]
  · rcases convert_str_inv h with ⟨rfl | rfl, rfl⟩ | ⟨rfl, _, rfl⟩ | ⟨rfl, _, rfl⟩ <;>
      simp [isLeaf, Val.fl, isKnown, isNull, typeOf]
  · rcases convert_num_inv h with ⟨rfl | rfl, rfl⟩ | ⟨rfl, _, rfl⟩ <;>
      simp [isLeaf, Val.fl, isKnown, isNull, typeOf]
  · rcases convert_bool_inv h with ⟨rfl | rfl, rfl⟩ | ⟨rfl, _, rfl⟩ <;>
      simp [isLeaf, Val.fl, isKnown, isNull, typeOf]

theorem convert_props {a : Val} {t : Ty} {x : Val} (h : convert a t = .ok x) :
    x.fl = a.fl ∧ x.isKnown = a.isKnown ∧ x.isNull = a.isNull := by
  cases a
  case list => rcases convert_list_inv h with ⟨_, rfl⟩ | ⟨_, _, _, _, rfl⟩ <;> exact ⟨rfl, rfl, rfl⟩
  case map => rcases convert_map_inv h with ⟨_, rfl⟩ | ⟨_, _, _, _, rfl⟩ <;> exact ⟨rfl, rfl, rfl⟩
  case tuple =>
    rcases convert_tuple_inv h with ⟨_, rfl⟩ | ⟨_, _, _, _, rfl⟩ | ⟨_, _, _, _, _, rfl⟩ <;> exact ⟨rfl, rfl, rfl⟩
  case object =>
    rcases convert_object_inv h with ⟨_, rfl⟩ | ⟨_, _, _, _, rfl⟩ | ⟨_, _, _, _, _, rfl⟩ <;> exact ⟨rfl, rfl, rfl⟩
  all_goals exact have ⟨_, h1, h2, h3, _⟩ := convert_leaf rfl h; ⟨h1, h2, h3⟩

theorem convert_fl {a : Val} {t : Ty} {x : Val} (h : convert a t = .ok x) : x.fl = a.fl :=
  (convert_props h).1
theorem convert_isKnown {a : Val} {t : Ty} {x : Val} (h : convert a t = .ok x) : x.isKnown = a.isKnown :=
  (convert_props h).2.1
theorem convert_isNull {a : Val} {t : Ty} {x : Val} (h : convert a t = .ok x) : x.isNull = a.isNull :=
  (convert_props h).2.2

theorem isLeaf_of_convert_prim {a : Val} {t : Ty} {x : Val} (ht : t.isPrim = true) (h : convert a t = .ok x) :
    isLeaf a = true := by
  cases a <;> try rfl
  · rcases convert_list_inv h with ⟨rfl | rfl, _⟩ | ⟨_, _, rfl, _⟩ <;> simp [Ty.isPrim] at ht
  · rcases convert_map_inv h with ⟨rfl | rfl, _⟩ | ⟨_, _, rfl, _⟩ <;> simp [Ty.isPrim] at ht
  · rcases convert_tuple_inv h with ⟨rfl, _⟩ | ⟨_, _, rfl, _⟩ | ⟨_, _, rfl, _⟩ <;> simp [Ty.isPrim] at ht
  · rcases convert_object_inv h with ⟨rfl, _⟩ | ⟨_, _, rfl, _⟩ | ⟨_, _, rfl, _⟩ <;> simp [Ty.isPrim] at ht

theorem convert_prim {a : Val} {t : Ty} {x : Val} (ht : t.isPrim = true) (h : convert a t = .ok x)
    (hn : a.isNull = false) : isLeaf x = true ∧ x.fl = a.fl ∧ x.isNull = false ∧ typeOf x = t := by
  obtain ⟨h1, h2, _, h4, h5⟩ := convert_leaf (isLeaf_of_convert_prim ht h) h
  refine ⟨h1, h2, h4.trans hn, h5.resolve_left ?_⟩
  rintro ⟨rfl, _⟩; simp [Ty.isPrim] at ht

theorem convert_num_cases (a : Val) (x : Val) (h : convert a .num = .ok x) (hn : a.isNull = false) :
    (∃ q, x = .num a.fl q) ∨ x = .unk a.fl .num := by
  obtain ⟨_, hf, hx, ht⟩ := convert_prim rfl h hn
  rcases shape_num ht with ⟨f, rfl⟩ | ⟨f, rfl⟩ | ⟨f, q, rfl⟩
  · exact Or.inr (hf ▸ rfl)
  · cases hx
  · exact Or.inl ⟨q, hf ▸ rfl⟩

theorem convert_str_cases (a : Val) (x : Val) (h : convert a .str = .ok x) (hn : a.isNull = false) :
    (∃ q, x = .str a.fl q) ∨ x = .unk a.fl .str := by
  obtain ⟨_, hf, hx, ht⟩ := convert_prim rfl h hn
  rcases shape_str ht with ⟨f, rfl⟩ | ⟨f, rfl⟩ | ⟨f, s, rfl⟩
  · exact Or.inr (hf ▸ rfl)
  · cases hx
  · exact Or.inl ⟨s, hf ▸ rfl⟩

theorem convert_bool_cases (a : Val) (x : Val) (h : convert a .bool = .ok x) (hn : a.isNull = false) :
    (∃ q, x = .bool a.fl q) ∨ x = .unk a.fl .bool := by
  obtain ⟨_, hf, hx, ht⟩ := convert_prim rfl h hn
  rcases shape_bool ht with ⟨f, rfl⟩ | ⟨f, rfl⟩ | ⟨f, b, rfl⟩
  · exact Or.inr (hf ▸ rfl)
  · cases hx
  · exact Or.inl ⟨b, hf ▸ rfl⟩

theorem tryConvert_ok {a : Val} {t : Ty} {x : Val} (h : tryConvert a t = .ok x) : convert a t = .ok x := by
  unfold tryConvert at h
  split at h <;> simp_all

theorem tryConvert_fl {a : Val} {t : Ty} {x : Val} (h : tryConvert a t = .ok x) : x.fl = a.fl :=
  convert_fl (tryConvert_ok h)
theorem tryConvert_isKnown {a : Val} {t : Ty} {x : Val} (h : tryConvert a t = .ok x) : x.isKnown = a.isKnown :=
  convert_isKnown (tryConvert_ok h)
theorem tryConvert_isNull {a : Val} {t : Ty} {x : Val} (h : tryConvert a t = .ok x) : x.isNull = a.isNull :=
  convert_isNull (tryConvert_ok h)

theorem tryConvert_str {k ks : Val} (hn : k.isNull = false) (h : tryConvert k .str = .ok ks) :
    (k.isKnown = true ∧ ∃ s, ks = .str k.fl s) ∨ (k.isKnown = false ∧ ks = .unk k.fl .str) := by
  obtain ⟨h1, h2, h3, h4⟩ := convert_prim rfl (tryConvert_ok h) hn
  rw [← h2, ← tryConvert_isKnown h]
  cases ks with
  | str f s => exact .inl ⟨rfl, s, rfl⟩
  | unk f t => cases h4; exact .inr ⟨rfl, rfl⟩
  | null => cases h3
  | num | bool => cases h4
  | list | map | tuple | object => cases h1

theorem tryConvert_err_frags {a : Val} {t : Ty} {d : Diag} (h : tryConvert a t = .error d) : d.frags = [] := by
  unfold tryConvert at h
  split at h
  · cases h
  · cases h; rfl
  · cases h; rfl

end HclModel.Proofs
