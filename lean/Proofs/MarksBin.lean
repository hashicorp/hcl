import Proofs.MarksRel
import Proofs.ValueOperators
/-!
C06: the operators (`evalUn`, `evalBin`): related operands give related results, through what `callBin` and
`shortCircuit` read of an operand (`payload`) and, for `==`/`!=`, through flag erasure.
-/
namespace HclModel.Proofs
open Val

theorem evalUn_rel (op : UnOp) (o o' : Out) (hr : relV o.1 o'.1 = true) (hs : shapeEq o.1 o'.1)
    (h1 : (evalUn op o).2 = []) (h2 : (evalUn op o').2 = []) :
    relV (evalUn op o).1 (evalUn op o').1 = true := by
  obtain ⟨g, ds⟩ := o
  obtain ⟨g', ds'⟩ := o'
  obtain ⟨-, v, r, c1, t1, u1, e1⟩ := evalUn_nil h1
  obtain ⟨-, v', r', c2, t2, u2, e2⟩ := evalUn_nil h2
  rw [e1, e2]
  simp only [] at hr hs ⊢
  have hv := tryConvert_rel hr c1 c2
  have hk : v.isKnown = v'.isKnown := by rw [tryConvert_isKnown c1, tryConvert_isKnown c2]; exact hs.1
  obtain ⟨-, -, s1⟩ := callUn_ok u1
  obtain ⟨-, -, s2⟩ := callUn_ok u2
  -- a constant keeps its flags, an unknown operand gives a bare unknown: the two runs fall in the same case
  rcases s1 with ⟨x, ev, er⟩ | ⟨x, ev, er⟩ | ⟨er, k1⟩ <;> rcases s2 with ⟨x', ev', er'⟩ | ⟨x', ev', er'⟩ | ⟨er', k2⟩
  · rw [ev, ev'] at hv; rw [er, er']
    simp [relV] at hv ⊢
    rcases hv with hv | hv <;> simp [hv]
  · rw [ev] at t1; rw [ev', ← t1] at t2; cases t2
  · rw [ev, k2 t2] at hk; cases hk
  · rw [ev] at t1; rw [ev', ← t1] at t2; cases t2
  · rw [ev, ev'] at hv; rw [er, er']
    simp [relV] at hv ⊢
    rcases hv with hv | hv <;> simp [hv]
  · rw [ev, k2 t2] at hk; cases hk
  · rw [ev', k1 t1] at hk; cases hk
  · rw [ev', k1 t1] at hk; cases hk
  · rw [er, er']; exact relV_refl _

theorem relC_payload {a a' : Val} (h : relC a a' = true) : payload a = payload a' := by
  cases relC_view h <;> rfl

theorem equalsKnown_er (a b : Val) : equalsKnown a b = equalsKnown (er a) (er b) := by
  unfold equalsKnown
  simp only [isNull_er, isKnown_er, whollyKnown_er, eqErased_er_left, eqErased_er_right, typeOf_er]
  cases a.isKnown <;> simp only [typeOf_er, Bool.false_eq_true, if_false, if_true]

theorem callBin_eq_rel (op : BinOp) (hop : op = .eq ∨ op = .ne) {a a' b b' v v' : Val}
    (ha : relV a a' = true) (hb : relV b b' = true)
    (h1 : callBin op a b = .ok v) (h2 : callBin op a' b' = .ok v') : relV v v' = true := by
  have f1 := callBin_eq_form op hop a b v h1
  have f2 := callBin_eq_form op hop a' b' v' h2
  by_cases he : eqErased a a' = true ∧ eqErased b b' = true
  · have e1 := er_eq_of_eqErased _ _ he.1
    have e2 := er_eq_of_eqErased _ _ he.2
    have : equalsKnown a.unmarkDeep b.unmarkDeep = equalsKnown a'.unmarkDeep b'.unmarkDeep := by
      rw [equalsKnown_er, er_unmarkDeep, er_unmarkDeep, e1, e2, ← er_unmarkDeep a', ← er_unmarkDeep b', ← equalsKnown_er]
    rw [this] at f1
    rcases f1 with ⟨rfl, g1⟩ | ⟨r, rfl, g1⟩ <;> rcases f2 with ⟨rfl, g2⟩ | ⟨r', rfl, g2⟩
    · simp [relV]
    · rw [g1] at g2; simp at g2
    · rw [g1] at g2; simp at g2
    · rw [g1] at g2; simp at g2; subst g2; simp [relV]
  · have hm : ((flagsDeep a).join (flagsDeep b)).m = true ∧ ((flagsDeep a').join (flagsDeep b')).m = true := by
      have he : eqErased a a' = false ∨ eqErased b b' = false := by
        cases h1 : eqErased a a'
        · exact .inl rfl
        · exact .inr ((Bool.not_eq_true _).mp fun h2 => he ⟨h1, h2⟩)
      simp only [join_m, ← hasMarkDeep_eq]
      rcases he with he | he
      · have := rel_differ_marked _ _ ha he
        rw [this.1, this.2]; exact ⟨rfl, rfl⟩
      · have := rel_differ_marked _ _ hb he
        rw [this.1, this.2, Bool.or_true, Bool.or_true]; exact ⟨rfl, rfl⟩
    apply relV_top
    · rcases f1 with ⟨rfl, _⟩ | ⟨r, rfl, _⟩ <;> simpa using hm.1
    · rcases f2 with ⟨rfl, _⟩ | ⟨r, rfl, _⟩ <;> simpa using hm.2

theorem evalBin_rel (op : BinOp) (lo lo' ro ro' : Out) (hl : relV lo.1 lo'.1 = true) (hr : relV ro.1 ro'.1 = true)
    (h1 : (evalBin true op lo ro).2 = []) (h2 : (evalBin true op lo' ro').2 = []) :
    relV (evalBin true op lo ro).1 (evalBin true op lo' ro').1 = true := by
  obtain ⟨gl, ld⟩ := lo
  obtain ⟨gr, rd⟩ := ro
  obtain ⟨gl', ld'⟩ := lo'
  obtain ⟨gr', rd'⟩ := ro'
  obtain ⟨-, -, l, r, v, c1, c2, hv, e1⟩ := evalBin_nil h1
  obtain ⟨-, -, l', r', v', c1', c2', hv', e2⟩ := evalBin_nil h2
  rw [e1, e2]
  simp only [] at hl hr ⊢
  rcases relV_cases (tryConvert_rel hl c1 c1') with ⟨m, m'⟩ | cl
  · exact relV_withFl_top _ _ (by simp [m]) (by simp [m'])
  rcases relV_cases (tryConvert_rel hr c2 c2') with ⟨m, m'⟩ | cr
  · exact relV_withFl_top _ _ (by simp [m]) (by simp [m'])
  apply relV_withFl
  have cl' : relC l.unmark.1 l'.unmark.1 = true := by simpa using cl
  have cr' : relC r.unmark.1 r'.unmark.1 = true := by simpa using cr
  by_cases hop : op = .eq ∨ op = .ne
  · rw [binCore_eq_callBin hop] at hv hv'
    exact callBin_eq_rel op hop (relV_of_relC cl') (relV_of_relC cr') hv hv'
  · rw [binCore_payload (not_or.mp hop) (relC_payload cl') (relC_payload cr') hv hv']
    exact rel_setFl_self v _
end HclModel.Proofs
