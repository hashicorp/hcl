import HclModel.Write.Loader
/-!
The writer's loader model (`HclModel/Write/Loader.lean`, C10): every token slice cut off by the partition helpers
ends up in the tree exactly once (`flatten_build_perm`), and in source order when no attribute node carries
stragglers behind its line comment / newline (`flatten_build`); without that it is false, as in hclwrite/parser.go.
-/
namespace HclModel.Loader

/-- An `"attr"` node is *tight* when the stragglers (tokens of the attribute's range after its expression,
    last child) are empty, or there is no line comment / newline for them to be moved behind. -/
def attrTight : List Tree → Bool
  | [_, _, _, _, _, _, _, .toks lc, .toks nl, .toks r3] => r3.isEmpty || (lc.isEmpty && nl.isEmpty)
  | _ => true

mutual
def tight : Tree → Bool
  | .toks _ => true
  | .node tag kids => (tag != "attr" || attrTight kids) && tightAll kids
def tightAll : List Tree → Bool
  | [] => true
  | t :: rest => tight t && tightAll rest
end

end HclModel.Loader

namespace HclModel.Loader.Proofs
open HclModel.Loader

theorem slice3_concat (toks : List Tok) {s e : Nat} (h : s ≤ e) {a b c : List Tok}
    (hs : slice3 toks s e = (a, b, c)) : a ++ b ++ c = toks := by
  simp only [slice3, Prod.mk.injEq] at hs
  obtain ⟨rfl, rfl, rfl⟩ := hs
  have : toks.drop e = (toks.drop s).drop (e - s) := by
    rw [List.drop_drop]; congr 1; omega
  rw [this, List.append_assoc, List.take_append_drop, List.take_append_drop]

theorem findIdx?_lt {α} (p : α → Bool) (l : List α) {i : Nat} (h : l.findIdx? p = some i) : i < l.length := by
  have := (List.findIdx?_eq_some_iff_getElem.mp h)
  exact this.1

theorem partIdx_le (toks : List Tok) (rng : Rng) : (partIdx toks rng).1 ≤ (partIdx toks rng).2 := by
  unfold partIdx
  split
  · simp
  · rename_i s hs
    have := findIdx?_lt _ _ hs
    split
    · simp; omega
    · simp

theorem partIdx_fst_le (toks : List Tok) (rng : Rng) : (partIdx toks rng).1 ≤ toks.length := by
  unfold partIdx
  split
  · simp
  · rename_i s hs
    have := findIdx?_lt _ _ hs
    split <;> simp <;> omega

theorem partition_eq {toks : List Tok} {rng : Rng} {a b c : List Tok}
    (h : partition toks rng = (a, b, c)) : a ++ b ++ c = toks := by
  unfold partition at h
  have hle := partIdx_le toks rng
  rcases hp : partIdx toks rng with ⟨s, e⟩
  rw [hp] at h hle
  exact slice3_concat toks hle h

theorem partition_concat (toks : List Tok) (rng : Rng) :
    (partition toks rng).1 ++ (partition toks rng).2.1 ++ (partition toks rng).2.2 = toks :=
  partition_eq rfl

theorem partitionType_eq {toks : List Tok} {ty : TT} {a b c : List Tok}
    (h : partitionType toks ty = some (a, b, c)) : a ++ b ++ c = toks := by
  unfold partitionType at h
  split at h
  · simp only [Option.some.injEq] at h
    exact slice3_concat toks (Nat.le_succ _) h
  · simp at h

theorem lineEnd_le (l : List Tok) (i : Nat) {ac an : Nat} (h : lineEnd l i = some (ac, an)) : ac ≤ an := by
  induction l generalizing i with
  | nil => simp [lineEnd] at h; omega
  | cons t rest ih =>
    simp only [lineEnd] at h
    split at h
    · simp at h; omega
    · exact ih _ h
    · simp at h; omega
    · simp at h; omega
    · simp at h

theorem leadCommentStart_le (l : List Tok) : leadCommentStart l ≤ l.length := by
  unfold leadCommentStart; omega

theorem partitionIncludingComments_eq {toks : List Tok} {rng : Rng} {a b c : List Tok}
    (h : partitionIncludingComments toks rng = some (a, b, c)) : a ++ b ++ c = toks := by
  unfold partitionIncludingComments at h
  have hle := partIdx_le toks rng
  rcases hp : partIdx toks rng with ⟨s, e⟩
  rw [hp] at h hle
  simp only at h hle
  split at h
  · simp at h
  · simp only [Option.some.injEq] at h
    refine slice3_concat toks ?_ h
    have := leadCommentStart_le (toks.take s)
    simp only [List.length_take] at this
    omega

theorem take_mid_drop (l : List Tok) {ac an : Nat} (h : ac ≤ an) :
    l.take ac ++ (l.drop ac).take (an - ac) ++ l.drop an = l :=
  slice3_concat l h rfl

theorem flattenAll_append (xs ys : List Tree) : flattenAll (xs ++ ys) = flattenAll xs ++ flattenAll ys := by
  induction xs with
  | nil => simp [flattenAll]
  | cons x xs ih => simp [flattenAll, ih]

theorem buildStep_concat {s : StepAst} {from_ b a : List Tok} {t : Tree}
    (h : buildStep s from_ = some (b, t, a)) : b ++ flatten t ++ a = from_ := by
  cases s with
  | name rng =>
    refine Eq.trans ?_ (partition_concat from_ rng)
    simp only [buildStep, Option.bind_eq_bind, Option.bind_eq_some_iff, Option.pure_def, Option.some.injEq,
      Prod.mk.injEq] at h
    obtain ⟨q, hq, rfl, rfl, rfl⟩ := h
    rw [← partitionType_eq hq]
    simp [flatten, flattenAll]
  | index rng key =>
    refine Eq.trans ?_ (partition_concat from_ rng)
    simp only [buildStep, Option.bind_eq_bind] at h
    split at h
    · rename_i hd
      simp only [Option.bind_eq_some_iff, Option.pure_def, Option.some.injEq, Prod.mk.injEq] at h
      obtain ⟨q, hn, rfl, rfl, rfl⟩ := h
      rw [← partitionType_eq hd, ← partitionType_eq hn]
      simp [flatten, flattenAll]
    · simp only [Option.bind_eq_some_iff] at h
      obtain ⟨q, ho, q', hc, h⟩ := h
      rw [← partitionType_eq ho, ← partitionType_eq hc]
      cases key <;> simp only [Option.bind_eq_some_iff, Option.pure_def, Option.some.injEq, Prod.mk.injEq] at h
      · obtain ⟨_, rfl, rfl, rfl, rfl⟩ := h
        simp [flatten, flattenAll]
      · obtain ⟨q3, hn, _, rfl, rfl, rfl, rfl⟩ := h
        rw [← partitionType_eq hn]
        simp [flatten, flattenAll]
      · obtain ⟨_, rfl, rfl, rfl, rfl⟩ := h
        simp [flatten, flattenAll]

theorem buildSteps_concat {ss : List StepAst} {from_ rest : List Tok} {trees : List Tree}
    (h : buildSteps ss from_ = some (trees, rest)) : flattenAll trees ++ rest = from_ := by
  induction ss generalizing from_ rest trees with
  | nil => simp [buildSteps] at h; obtain ⟨rfl, rfl⟩ := h; simp [flattenAll]
  | cons s ss ih =>
    simp only [buildSteps, Option.bind_eq_bind, Option.bind_eq_some_iff, Option.pure_def, Option.some.injEq,
      Prod.mk.injEq] at h
    obtain ⟨q, hs, q', hr, rfl, rfl⟩ := h
    rw [← buildStep_concat hs, ← ih hr]
    simp [flatten, flattenAll]

/-- nothing is lost by `parseTraversal` except the returned `dropped` remainder -/
theorem buildTrav_concat {t : TravAst} {from_ b a d : List Tok} {tree : Tree}
    (h : buildTrav t from_ = some (b, tree, a, d)) : b ++ flatten tree ++ d ++ a = from_ := by
  refine Eq.trans ?_ (partition_concat from_ t.rng)
  simp only [buildTrav, Option.bind_eq_bind, Option.bind_eq_some_iff, Option.pure_def, Option.some.injEq,
    Prod.mk.injEq] at h
  obtain ⟨q, hs, rfl, rfl, rfl, rfl⟩ := h
  rw [← buildSteps_concat hs]
  simp [flatten]

theorem buildTravs_concat {ts : List TravAst} {from_ rest : List Tok} {trees : List Tree}
    (h : buildTravs ts from_ = some (trees, rest, true)) : flattenAll trees ++ rest = from_ := by
  induction ts generalizing from_ rest trees with
  | nil => simp [buildTravs] at h; obtain ⟨rfl, rfl⟩ := h; simp [flattenAll]
  | cons t ts ih =>
    simp only [buildTravs, Option.bind_eq_bind, Option.bind_eq_some_iff, Option.pure_def, Option.some.injEq,
      Prod.mk.injEq, Bool.and_eq_true, List.isEmpty_iff] at h
    obtain ⟨⟨before, trav, after, dropped⟩, ht, ⟨trees', rest', ok⟩, hr, rfl, rfl, rfl, rfl⟩ := h
    dsimp only at hr ⊢
    rw [← buildTrav_concat ht, ← ih hr]
    simp [flatten, flattenAll]

theorem buildExpr_concat {e : ExprAst} {from_ : List Tok} {tree : Tree}
    (h : buildExpr e from_ = some (tree, true)) : flatten tree = from_ := by
  simp only [buildExpr, Option.bind_eq_bind, Option.bind_eq_some_iff, Option.pure_def, Option.some.injEq,
    Prod.mk.injEq] at h
  obtain ⟨⟨trees, rest, ok⟩, ht, rfl, rfl⟩ := h
  simp [flatten, flattenAll_append, flattenAll, buildTravs_concat ht]

theorem buildLabels_nonfirst {rs : List Rng} {from_ b rest : List Tok} {trees : List Tree}
    (h : buildLabels rs from_ false = some (b, trees, rest)) : b = [] := by
  cases rs with
  | nil => simp [buildLabels] at h; exact h.1
  | cons r rs =>
    simp only [buildLabels, Option.bind_eq_bind, Option.bind_eq_some_iff] at h
    obtain ⟨q, _, h⟩ := h
    simp at h
    exact h.1

theorem buildLabels_concat {rs : List Rng} {from_ b rest : List Tok} {trees : List Tree} {first : Bool}
    (h : buildLabels rs from_ first = some (b, trees, rest)) : b ++ flattenAll trees ++ rest = from_ := by
  induction rs generalizing from_ b rest trees first with
  | nil => simp [buildLabels] at h; obtain ⟨rfl, rfl, rfl⟩ := h; simp [flattenAll]
  | cons r rs ih =>
    refine Eq.trans ?_ (partition_concat from_ r)
    simp only [buildLabels, Option.bind_eq_bind, Option.bind_eq_some_iff] at h
    obtain ⟨⟨x, trees', rest'⟩, hr, h⟩ := h
    cases buildLabels_nonfirst hr
    rw [← ih hr]
    cases first <;> simp at h <;> obtain ⟨rfl, rfl, rfl⟩ := h <;> simp [flatten, flattenAll]

/-- `l` is a rearrangement of the source slice `src`, and equal to it when the tree is tight -/
def Good (l : List Tok) (t : Bool) (src : List Tok) : Prop := l.Perm src ∧ (t = true → l = src)

/-- A rearranged piece stays one when it is put back between the same two lists; the two decompositions are left
    to the caller, who names `P` and `Q`. -/
theorem Good.mid {l src L S : List Tok} {t t' : Bool} (h : Good l t src) (ht : t' = true → t = true)
    (P Q : List Tok) (hL : L = P ++ l ++ Q) (hS : S = P ++ src ++ Q) : Good L t' S := by
  subst hL hS
  exact ⟨(h.1.append_left P).append_right Q, fun h' => by rw [h.2 (ht h')]⟩

/-- `parseAttribute` moves the stragglers `r3` behind the line's comment and newline. -/
theorem Good.stragglers (lcs nl r3 : List Tok) :
    Good (lcs ++ nl ++ r3) (r3.isEmpty || (lcs.isEmpty && nl.isEmpty)) (r3 ++ (lcs ++ nl)) := by
  refine ⟨List.perm_append_comm, fun ht => ?_⟩
  simp at ht
  rcases ht with rfl | ⟨rfl, rfl⟩ <;> simp

/-- `PartitionBlockItem`: an item's own tokens stand between its lead comments (the last `before0.length - k`
    tokens before it) and the end of its line; whatever is built from these four goes back between the rest. -/
theorem Good.frame {from_ before0 within after0 mid : List Tok} {rng : Rng} {ac an : Nat} {t : Bool} (k : Nat)
    (hp : partition from_ rng = (before0, within, after0)) (hl : lineEnd after0 0 = some (ac, an))
    (hm : Good mid t (before0.drop k ++ within ++ (after0.take ac ++ (after0.drop ac).take (an - ac)))) :
    Good (before0.take k ++ mid ++ after0.drop an) t from_ := by
  have e : before0.take k ++ (before0.drop k ++ within ++ (after0.take ac ++ (after0.drop ac).take (an - ac)))
        ++ after0.drop an = from_ :=
    calc _ = (before0.take k ++ before0.drop k) ++ within ++
            (after0.take ac ++ (after0.drop ac).take (an - ac) ++ after0.drop an) := by simp only [List.append_assoc]
      _ = from_ := by rw [List.take_append_drop, take_mid_drop after0 (lineEnd_le _ _ hl), partition_eq hp]
  exact hm.mid id _ _ rfl e.symm

theorem buildItem_attr {fuel : Nat} {rng nameRng eqRng : Rng} {expr : ExprAst} {from_ b a : List Tok} {tree : Tree}
    (h : buildItem (fuel+1) (.attr rng nameRng eqRng expr) from_ = some (b, tree, a, true)) :
    Good (b ++ flatten tree ++ a) (tight tree) from_ := by
  simp only [buildItem] at h
  rcases hp : partition from_ rng with ⟨before0, within, after0⟩
  rw [hp] at h
  simp only at h
  cases hl : lineEnd after0 0 with
  | none => simp [hl] at h
  | some q =>
    obtain ⟨ac, an⟩ := q
    simp only [hl] at h
    rcases hp1 : partition within nameRng with ⟨b1, nm, r1⟩
    simp only [hp1] at h
    rcases hp2 : partition r1 eqRng with ⟨b2, eq, r2⟩
    simp only [hp2] at h
    rcases hp3 : partition r2 expr.rng with ⟨b3, exprToks, r3⟩
    simp only [hp3] at h
    split at h
    · simp at h
    · cases he : buildExpr expr exprToks with
      | none => simp [he] at h
      | some q =>
        obtain ⟨exprTree, ok⟩ := q
        simp [he] at h
        obtain ⟨rfl, rfl, rfl, rfl⟩ := h
        refine Good.frame _ hp hl ?_
        generalize after0.take ac = lcs
        generalize (after0.drop ac).take (an - ac) = nl
        generalize before0.drop (leadCommentStart before0) = ldc
        have e1 := partition_eq hp1
        have e2 := partition_eq hp2
        have e3 := partition_eq hp3
        have e4 := buildExpr_concat he
        subst e1 e2 e3
        refine (Good.stragglers lcs nl r3).mid (fun ht => ?_) (ldc ++ b1 ++ nm ++ b2 ++ eq ++ b3 ++ exprToks) []
          (by simp [flatten, flattenAll, e4]) (by simp)
        simp [tight, tightAll, attrTight] at ht ⊢
        exact ht.1

theorem buildItem_block {fuel : Nat} {rng typeRng oBrace cBrace bodyRng : Rng} {labelRngs : List Rng}
    {items : List ItemAst} {from_ b a : List Tok} {tree : Tree}
    (ihBody : ∀ rng items from_ b tree a, buildBody fuel rng items from_ = some (b, tree, a, true) →
      Good (b ++ flatten tree ++ a) (tight tree) from_)
    (h : buildItem (fuel+1) (.block rng typeRng labelRngs oBrace cBrace bodyRng items) from_ = some (b, tree, a, true)) :
    Good (b ++ flatten tree ++ a) (tight tree) from_ := by
  simp only [buildItem] at h
  rcases hp : partition from_ rng with ⟨before0, within, after0⟩
  rw [hp] at h
  simp only at h
  cases hl : lineEnd after0 0 with
  | none => simp [hl] at h
  | some q =>
    obtain ⟨ac, an⟩ := q
    simp only [hl] at h
    rcases hp1 : partition within typeRng with ⟨b1, ty, r1⟩
    simp only [hp1] at h
    split at h
    · simp at h
    · cases hlb : buildLabels labelRngs r1 true with
      | none => simp [hlb] at h
      | some q =>
        obtain ⟨bl, labelTrees, r2⟩ := q
        simp only [hlb, bind, Option.bind] at h
        rcases hp2 : partition r2 oBrace with ⟨b2, ob, r3⟩
        simp only [hp2] at h
        rcases hp3 : partition r3 cBrace with ⟨bodyToks, cb, r4⟩
        simp only [hp3] at h
        cases hb : buildBody fuel bodyRng items bodyToks with
        | none => simp [hb] at h
        | some q =>
          obtain ⟨bb, bodyTree, ba, ok⟩ := q
          simp [hb] at h
          obtain ⟨rfl, rfl, rfl, rfl⟩ := h
          refine Good.frame _ hp hl ?_
          generalize after0.take ac = lcs
          generalize (after0.drop ac).take (an - ac) = nl
          generalize before0.drop (leadCommentStart before0) = ldc
          have e1 := partition_eq hp1
          have e2 := partition_eq hp2
          have e3 := partition_eq hp3
          have e4 := buildLabels_concat hlb
          subst e1 e2 e3 e4
          refine (ihBody _ _ _ _ _ _ hb).mid (fun ht => ?_)
            (ldc ++ b1 ++ ty ++ bl ++ flattenAll labelTrees ++ b2 ++ ob) (cb ++ r4 ++ lcs ++ nl)
            (by simp [flatten, flattenAll]) (by simp)
          simp [tight, tightAll] at ht
          exact ht.2

theorem build_all (fuel : Nat) :
    (∀ it from_ b tree a, buildItem fuel it from_ = some (b, tree, a, true) →
      Good (b ++ flatten tree ++ a) (tight tree) from_) ∧
    (∀ rng items from_ b tree a, buildBody fuel rng items from_ = some (b, tree, a, true) →
      Good (b ++ flatten tree ++ a) (tight tree) from_) ∧
    (∀ items from_ trees, buildItems fuel items from_ = some (trees, true) →
      Good (flattenAll trees) (tightAll trees) from_) := by
  induction fuel with
  | zero => simp [buildItem, buildBody, buildItems]
  | succ fuel ih =>
    obtain ⟨ihItem, ihBody, ihItems⟩ := ih
    refine ⟨?_, ?_, ?_⟩
    · intro it from_ b tree a h
      cases it with
      | attr => exact buildItem_attr h
      | block => exact buildItem_block ihBody h
    · intro rng items from_ b tree a h
      simp only [buildBody, Option.bind_eq_bind, Option.bind_eq_some_iff, Option.pure_def, Option.some.injEq,
        Prod.mk.injEq] at h
      obtain ⟨⟨before, within, after⟩, hp, ⟨trees, ok⟩, hi, rfl, rfl, rfl, rfl⟩ := h
      exact (ihItems _ _ _ hi).mid (fun ht => by simpa [tight] using ht) _ _ (by simp only [flatten])
        (partitionIncludingComments_eq hp).symm
    · intro items from_ trees h
      cases items with
      | nil =>
        simp [buildItems] at h
        subst h
        simp [flatten, flattenAll, tight, tightAll, Good]
      | cons it rest =>
        simp only [buildItems, Option.bind_eq_bind, Option.bind_eq_some_iff, Option.pure_def, Option.some.injEq,
          Prod.mk.injEq, Bool.and_eq_true] at h
        obtain ⟨⟨bi, item, ai, ok1⟩, hi, ⟨trees', ok2⟩, hr, rfl, rfl, rfl⟩ := h
        obtain ⟨p1, e1⟩ := ihItem _ _ _ _ _ hi
        obtain ⟨p2, e2⟩ := ihItems _ _ _ hr
        refine ⟨?_, fun ht => ?_⟩
        · simpa [flatten, flattenAll] using (p2.append_left (bi ++ flatten item)).trans p1
        · simp [tight, tightAll] at ht
          simpa [flatten, flattenAll, e2 ht.2] using e1 ht.1

theorem buildFile_good (fuel : Nat) (rng : Rng) (items : List ItemAst) (toks : List Tok) (tree : Tree)
    (h : buildFile fuel rng items toks = some (tree, true)) : Good (flatten tree) (tight tree) toks := by
  simp only [buildFile, Option.bind_eq_bind, Option.bind_eq_some_iff, Option.pure_def, Option.some.injEq,
    Prod.mk.injEq] at h
  obtain ⟨⟨before, body, after, ok⟩, hb, rfl, rfl⟩ := h
  simpa [Good, flatten, flattenAll, tight, tightAll] using (build_all fuel).2.1 _ _ _ _ _ _ hb

theorem flatten_build_perm (fuel : Nat) (rng : Rng) (items : List ItemAst) (toks : List Tok) (tree : Tree)
    (h : buildFile fuel rng items toks = some (tree, true)) : (flatten tree).Perm toks :=
  (buildFile_good fuel rng items toks tree h).1

theorem flatten_build (fuel : Nat) (rng : Rng) (items : List ItemAst) (toks : List Tok) (tree : Tree)
    (h : buildFile fuel rng items toks = some (tree, true)) (ht : tight tree = true) : flatten tree = toks :=
  (buildFile_good fuel rng items toks tree h).2 ht

/-- `a = 1 x ⏎ EOF` with one attribute of range [0,8) whose expression has range [4,5): `x` is a straggler. -/
def cexToks : List Tok :=
  [⟨0, .ident, 0⟩, ⟨2, .other, 1⟩, ⟨4, .number, 2⟩, ⟨6, .other, 3⟩, ⟨8, .newline, 4⟩, ⟨9, .eof, 5⟩]
def cexItems : List ItemAst := [.attr ⟨0, 8⟩ ⟨0, 1⟩ ⟨2, 3⟩ ⟨⟨4, 5⟩, []⟩]

theorem cex_eval : (buildFile 4 ⟨0, 9⟩ cexItems cexToks).map (fun p => ((flatten p.1).map (·.id), p.2))
    = some ([0, 1, 2, 4, 3, 5], true) := by decide

/-- Without the tightness hypothesis the statement does not hold: an attribute whose range extends
    past its expression's range gets the tokens in between (`stragglers`) re-attached AFTER the line's
    comment/newline tokens (`parseAttribute`: `lineComments`, `newline`, then `from`). -/
theorem flatten_build_unconditional_false :
    ¬ ∀ (fuel : Nat) (rng : Rng) (items : List ItemAst) (toks : List Tok) (tree : Tree),
      buildFile fuel rng items toks = some (tree, true) → flatten tree = toks := by
  intro H
  have c := cex_eval
  cases hb : buildFile 4 ⟨0, 9⟩ cexItems cexToks with
  | none => simp [hb] at c
  | some p =>
    obtain ⟨tree, ok⟩ := p
    simp only [hb, Option.map, Option.some.injEq, Prod.mk.injEq] at c
    obtain ⟨c1, rfl⟩ := c
    rw [H _ _ _ _ _ hb] at c1
    exact absurd c1 (by decide)
end HclModel.Loader.Proofs
