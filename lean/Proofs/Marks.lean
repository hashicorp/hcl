import Proofs.MarksStrict
/-!
C06, expression evaluation: noninterference in the strict configuration under the side condition `Stable`
(`Proofs/MarksStable.lean`), without which it is false (witnesses in `Props/C06.lean`), and outright on the
fragment `plain`, where `Stable` has no clause.  How the strict configuration relates to Go's is `strict_agrees`
(`Proofs/MarksStrict.lean`).
-/
namespace HclModel.Proofs

theorem noninterference_partial (F : Funcs) (hF : LawfulFuncs F) (e : Expr) (ρ σ : Env) (h : relEnv ρ σ)
    (hs : Stable (strictCx F) e ρ σ)
    (h₁ : (eval (strictCx F) ρ e).2 = []) (h₂ : (eval (strictCx F) σ e).2 = []) :
    relV (eval (strictCx F) ρ e).1 (eval (strictCx F) σ e).1 = true :=
  ni_eval F hF e ρ σ h hs h₁ h₂

mutual
/-- expressions without any construct that has a clause in `Stable`: literals, variables, attribute access,
    binary operators, tuple constructors, templates -/
def plain : Expr → Bool
  | .lit _ => true
  | .var _ => true
  | .getAttr e _ => plain e
  | .bin _ l r => plain l && plain r
  | .tuple es => plainList es
  | .template parts => plainList parts
  | _ => false
def plainList : List Expr → Bool
  | [] => true
  | e :: es => plain e && plainList es
end

mutual
theorem stable_of_plain (F : Cx) : ∀ (e : Expr) (ρ σ : Env), plain e = true → Stable F e ρ σ
  | .lit _, _, _, _ => by simp only [Stable]
  | .var _, _, _, _ => by simp only [Stable]
  | .getAttr e _, ρ, σ, h => by
    simp only [plain] at h
    simp only [Stable]; exact stable_of_plain F e ρ σ h
  | .bin _ l r, ρ, σ, h => by
    simp only [plain, Bool.and_eq_true] at h
    simp only [Stable]; exact ⟨stable_of_plain F l ρ σ h.1, stable_of_plain F r ρ σ h.2⟩
  | .tuple es, ρ, σ, h => by
    simp only [plain] at h
    simp only [Stable]; exact stableList_of_plain F es ρ σ h
  | .template es, ρ, σ, h => by
    simp only [plain] at h
    simp only [Stable]; exact stableList_of_plain F es ρ σ h
  | .index _ _, _, _, h | .un _ _, _, _, h | .cond _ _ _, _, _, h | .object _, _, _, h
  | .forTuple _ _ _ _ _, _, _, h | .forObject _ _ _ _ _ _ _, _, _, h | .splat _ _ _, _, _, h
  | .tjoin _, _, _, h | .call _ _ _, _, _, h => by simp [plain] at h
theorem stableList_of_plain (F : Cx) : ∀ (es : List Expr) (ρ σ : Env), plainList es = true → StableList F es ρ σ
  | [], _, _, _ => by simp only [StableList]
  | e :: es, ρ, σ, h => by
    simp only [plainList, Bool.and_eq_true] at h
    simp only [StableList]; exact ⟨stable_of_plain F e ρ σ h.1, stableList_of_plain F es ρ σ h.2⟩
end

theorem noninterference_plain (F : Funcs) (hF : LawfulFuncs F) (e : Expr) (hp : plain e = true) (ρ σ : Env)
    (h : relEnv ρ σ) (h₁ : (eval (strictCx F) ρ e).2 = []) (h₂ : (eval (strictCx F) σ e).2 = []) :
    relV (eval (strictCx F) ρ e).1 (eval (strictCx F) σ e).1 = true :=
  noninterference_partial F hF e ρ σ h (stable_of_plain _ e ρ σ hp) h₁ h₂

end HclModel.Proofs
