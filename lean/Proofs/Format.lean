import HclModel.Write.Format
/-!
C09 for the formatter model `HclModel/Write/Format.lean`: it changes only `sp` (`format_map_erase`) and its output
is a function of the erased tokens and the spacing of the trailing EOF token (`format_indep`); idempotence follows.
`eL` erases all spacing of a line, `eC` only that of the comment cell: every pass keeps `map eL` fixed, indent+space
is insensitive to `eL` up to `eC`, `alignAssign` commutes with `eC`, and `alignComment` is insensitive to `eC`
because a comment cell holds at most one token.
-/
namespace HclModel.Format.Proofs
open HclModel.Format

@[simp] theorem erase_ty (t : Tok) : (erase t).ty = t.ty := rfl
@[simp] theorem erase_isIn (t : Tok) : (erase t).isIn = t.isIn := rfl
@[simp] theorem erase_nl (t : Tok) : (erase t).nl = t.nl := rfl
@[simp] theorem erase_width (t : Tok) : (erase t).width = t.width := rfl
@[simp] theorem erase_erase (t : Tok) : erase (erase t) = erase t := rfl
@[simp] theorem erase_setSp (t : Tok) (n : Nat) : erase (setSp t n) = erase t := rfl
@[simp] theorem setSp_erase (t : Tok) (n : Nat) : setSp (erase t) n = setSp t n := rfl
@[simp] theorem setSp_ty (t : Tok) (n : Nat) : (setSp t n).ty = t.ty := rfl
@[simp] theorem setSp_isIn (t : Tok) (n : Nat) : (setSp t n).isIn = t.isIn := rfl

theorem map_erase_erase (l : List Tok) : (l.map erase).map erase = l.map erase := by
  simp [List.map_map, Function.comp_def]

theorem tok_eq_of_erase {t u : Tok} (h : erase t = erase u) (hs : t.sp = u.sp) : t = u := by
  cases t; cases u
  simp only [erase, Tok.mk.injEq] at h
  simp only [Tok.mk.injEq]
  simp_all

theorem ty_eq_of_erase {t u : Tok} (h : erase t = erase u) : t.ty = u.ty :=
  show (erase t).ty = (erase u).ty from congrArg Tok.ty h

def eL (l : Line) : Line :=
  { lead := l.lead.map erase, assign := l.assign.map erase, comment := l.comment.map erase }

def eC (l : Line) : Line := { l with comment := l.comment.map erase }

/-- a comment cell holds at most one token -/
def P (l : Line) : Prop := l.comment.length ≤ 1

theorem P_eL (l : Line) : P (eL l) ↔ P l := by simp [P, eL]

theorem allP_of_map_eL {ls ls' : List Line} (h : ls.map eL = ls'.map eL) (hp : ∀ l ∈ ls', P l) :
    ∀ l ∈ ls, P l := by
  intro l hl
  have : eL l ∈ ls'.map eL := h ▸ List.mem_map_of_mem hl
  obtain ⟨l', hl', he⟩ := List.mem_map.mp this
  have := hp l' hl'
  rw [← P_eL] at this ⊢
  rw [← he]; exact this

@[simp] theorem map_erase_setHead (n : Nat) (l : List Tok) : (setHead n l).map erase = l.map erase := by
  cases l <;> simp [setHead]

@[simp] theorem map_erase_spaceRest (R : Rules) (l : List Tok) (s : Tok) (b : Nat) :
    (spaceRest R s b l).map erase = l.map erase := by
  induction l generalizing s b with
  | nil => simp [spaceRest]
  | cons a rest ih => simp [spaceRest, ih]

@[simp] theorem map_erase_spaceCell (R : Rules) (l : List Tok) : (spaceCell R l).map erase = l.map erase := by
  cases l <;> simp [spaceCell]

theorem spaceRest_erase (R : Rules) (l : List Tok) (s s' : Tok) (b : Nat)
    (h1 : s'.ty = s.ty) (h2 : s'.isIn = s.isIn) :
    spaceRest R s' b (l.map erase) = spaceRest R s b l := by
  induction l generalizing s s' b with
  | nil => simp [spaceRest]
  | cons a rest ih =>
    simp only [List.map_cons, spaceRest, erase_ty, setSp_erase, h1, h2]
    rw [ih a (erase a) s.ty rfl rfl]

theorem spaceCell_setHead_erase (R : Rules) (k : Nat) (l : List Tok) :
    spaceCell R (setHead k (l.map erase)) = spaceCell R (setHead k l) := by
  cases l with
  | nil => rfl
  | cons t rest =>
    simp only [List.map_cons, setHead, spaceCell, setSp_erase]
    rw [spaceRest_erase R rest (setSp t k) (setSp t k) tyNil rfl rfl]

@[simp] theorem netBrackets_erase (R : Rules) (l : List Tok) :
    netBrackets R (l.map erase) = netBrackets R l := by
  simp [netBrackets, List.foldl_map]

@[simp] theorem leadBrackets_erase (R : Rules) (l : List Tok) :
    leadBrackets R (l.map erase) = leadBrackets R l := by
  induction l with
  | nil => rfl
  | cons t rest ih => simp [leadBrackets, ih]

@[simp] theorem findEqual_erase (l : List Tok) (i : Nat) : findEqual (l.map erase) i = findEqual l i := by
  induction l generalizing i with
  | nil => rfl
  | cons t rest ih => simp [findEqual, ih]

theorem splitRaw_erase (ts cur : List Tok) :
    splitRaw (ts.map erase) (cur.map erase) = (splitRaw ts cur).map (List.map erase) := by
  induction ts generalizing cur with
  | nil => simp [splitRaw]
  | cons t rest ih =>
    by_cases h1 : t.ty = tyEOF
    · simp [splitRaw, h1]
    · by_cases h2 : t.nl = true
      · have := ih []
        simp only [List.map_nil] at this
        simp [splitRaw, h1, h2, this]
      · have := ih (t :: cur)
        simp only [List.map_cons] at this
        simp [splitRaw, h1, h2, this]

theorem splitRaw_flatten (ts cur : List Tok) : (splitRaw ts cur).flatten = cur.reverse ++ ts := by
  induction ts generalizing cur with
  | nil => simp [splitRaw]
  | cons t rest ih =>
    simp only [splitRaw]
    split
    · simp
    · split
      · simp [ih]
      · simp [ih]

/-- the lead/comment split at the start of `cells` -/
def splitComment (raw : List Tok) : List Tok × List Tok :=
  match raw.getLast? with
  | some t => if raw.length > 1 ∧ t.ty = tyComment then (raw.dropLast, [t]) else (raw, [])
  | none => (raw, [])

/-- the lead/assign split of `cells` -/
def cellsOf (R : Rules) (lead comment : List Tok) : Line :=
  match findEqual lead 0 with
  | some i =>
    if netBrackets R (lead.drop i) = 0 then
      { lead := lead.take i, assign := lead.drop i, comment := comment }
    else { lead := lead, assign := [], comment := comment }
  | none => { lead := lead, assign := [], comment := comment }

theorem cells_eq (R : Rules) (raw : List Tok) :
    cells R raw = cellsOf R (splitComment raw).1 (splitComment raw).2 := by
  unfold cells cellsOf splitComment
  cases raw.getLast? with
  | none => rfl
  | some t =>
    by_cases h : raw.length > 1 ∧ t.ty = tyComment
    · simp only [h, and_self, if_true]; rfl
    · simp only [h, if_false]; rfl

theorem splitComment_erase (raw : List Tok) :
    splitComment (raw.map erase) = ((splitComment raw).1.map erase, (splitComment raw).2.map erase) := by
  unfold splitComment
  rw [List.getLast?_map]
  cases raw.getLast? with
  | none => rfl
  | some t =>
    simp only [Option.map_some, List.length_map, erase_ty]
    split <;> simp [List.map_dropLast]

theorem splitComment_append (raw : List Tok) : (splitComment raw).1 ++ (splitComment raw).2 = raw := by
  unfold splitComment
  cases h : raw.getLast? with
  | none => simp
  | some t =>
    simp only []
    split
    · obtain ⟨ys, rfl⟩ := List.getLast?_eq_some_iff.mp h
      simp
    · simp

theorem splitComment_P (raw : List Tok) : (splitComment raw).2.length ≤ 1 := by
  unfold splitComment
  cases raw.getLast? with
  | none => simp
  | some t => simp only []; split <;> simp

theorem cellsOf_erase (R : Rules) (lead comment : List Tok) :
    cellsOf R (lead.map erase) (comment.map erase) = eL (cellsOf R lead comment) := by
  unfold cellsOf
  rw [findEqual_erase]
  cases findEqual lead 0 with
  | none => simp [eL]
  | some i =>
    simp only [← List.map_drop, ← List.map_take, netBrackets_erase]
    split <;> simp [eL]

theorem cellsOf_append (R : Rules) (lead comment : List Tok) :
    (cellsOf R lead comment).lead ++ (cellsOf R lead comment).assign = lead ∧
      (cellsOf R lead comment).comment = comment := by
  unfold cellsOf
  cases findEqual lead 0 with
  | none => simp
  | some i => simp only []; split <;> simp

theorem cells_erase (R : Rules) (raw : List Tok) : cells R (raw.map erase) = eL (cells R raw) := by
  rw [cells_eq, cells_eq, splitComment_erase, cellsOf_erase]

theorem cells_append (R : Rules) (raw : List Tok) :
    (cells R raw).lead ++ (cells R raw).assign ++ (cells R raw).comment = raw := by
  rw [cells_eq]
  have := cellsOf_append R (splitComment raw).1 (splitComment raw).2
  rw [this.1, this.2, splitComment_append]

theorem cells_P (R : Rules) (raw : List Tok) : P (cells R raw) := by
  rw [cells_eq]
  have := cellsOf_append R (splitComment raw).1 (splitComment raw).2
  simp only [P, this.2]
  exact splitComment_P raw

/-- the lines of `linesFor`, on the tokens before the trailing EOF -/
def linesOf (R : Rules) (body : List Tok) : List Line := (splitRaw body []).map (cells R)

theorem linesOf_erase (R : Rules) (body : List Tok) :
    linesOf R (body.map erase) = (linesOf R body).map eL := by
  have := splitRaw_erase body []
  simp only [List.map_nil] at this
  simp [linesOf, this, List.map_map, Function.comp_def, cells_erase]

theorem linesOf_P (R : Rules) (body : List Tok) : ∀ l ∈ linesOf R body, P l := by
  intro l hl
  obtain ⟨raw, _, rfl⟩ := List.mem_map.mp hl
  exact cells_P R raw

theorem flatten_linesOf (R : Rules) (body : List Tok) : flatten (linesOf R body) = body := by
  have := splitRaw_flatten body []
  simp only [List.reverse_nil, List.nil_append] at this
  simp only [flatten, linesOf, List.flatMap_map, cells_append]
  simpa [List.flatMap_id'] using this

theorem flatten_map_erase (ls : List Line) : (flatten ls).map erase = flatten (ls.map eL) := by
  induction ls with
  | nil => rfl
  | cons l ls ih =>
    simp only [flatten, List.flatMap_cons, List.map_append, List.map_cons] at ih ⊢
    rw [ih]; simp [eL]

@[simp] theorem eL_spaceLine (R : Rules) (l : Line) : eL (spaceLine R l) = eL l := by
  simp [eL, spaceLine]

theorem eL_setLead (l : Line) (k : Nat) : eL { l with lead := setHead k l.lead } = eL l := by
  simp [eL]

/-- what `indentLines` does at one line: the indentation it writes and the stack it goes on with.
    Both depend on the line only through token types, so not on any spacing. -/
def indentStep (R : Rules) (l : Line) (st : List Nat) : Nat × List Nat :=
  match l.lead with
  | [] => (0, st)
  | t :: _ =>
    if t.ty = tyNewline then (0, st)
    else
      let net := leadBrackets R l.lead + netBrackets R l.assign
      if net > 0 then (2 * st.length, net.toNat :: st)
      else if net < 0 then (2 * (popIndents (-net).toNat st).length, popIndents (-net).toNat st)
      else (2 * st.length, st)

theorem indentLines_cons (R : Rules) (l : Line) (ls : List Line) (st : List Nat) :
    indentLines R (l :: ls) st =
      { l with lead := setHead (indentStep R l st).1 l.lead } :: indentLines R ls (indentStep R l st).2 := by
  obtain ⟨lead, assign, comment⟩ := l
  cases lead with
  | nil => rfl
  | cons t rest =>
    simp only [indentLines, indentStep]
    by_cases h1 : t.ty = tyNewline
    · simp only [h1, if_true]
    · simp only [h1, if_false]
      by_cases h2 : leadBrackets R (t :: rest) + netBrackets R assign > 0
      · simp only [h2, if_true]
      · simp only [h2, if_false]
        by_cases h3 : leadBrackets R (t :: rest) + netBrackets R assign < 0
        · simp only [h3, if_true]
        · simp only [h3, if_false]

theorem indentStep_eL (R : Rules) (l : Line) (st : List Nat) : indentStep R (eL l) st = indentStep R l st := by
  obtain ⟨lead, assign, comment⟩ := l
  cases lead with
  | nil => rfl
  | cons t rest =>
    have hb : leadBrackets R (erase t :: rest.map erase) = leadBrackets R (t :: rest) := by
      rw [← List.map_cons, leadBrackets_erase]
    simp only [indentStep, eL, List.map_cons, erase_ty, hb, netBrackets_erase]

theorem eL_indentLines (R : Rules) (ls : List Line) (st : List Nat) :
    (indentLines R ls st).map eL = ls.map eL := by
  induction ls generalizing st with
  | nil => rfl
  | cons l ls ih => rw [indentLines_cons, List.map_cons, ih, eL_setLead, List.map_cons]

/-- the spacing pass up to the comment cell's own spacing, which `spaceLine` does not touch -/
def sc (R : Rules) (l : Line) : Line := eC (spaceLine R l)

theorem sc_setLead_eL (R : Rules) (k : Nat) (l : Line) :
    sc R { eL l with lead := setHead k (eL l).lead } = sc R { l with lead := setHead k l.lead } := by
  simp [sc, eC, spaceLine, eL, spaceCell_setHead_erase]

theorem sc_indentLines_eL (R : Rules) (ls : List Line) (st : List Nat) :
    (indentLines R (ls.map eL) st).map (sc R) = (indentLines R ls st).map (sc R) := by
  induction ls generalizing st with
  | nil => rfl
  | cons l ls ih =>
    rw [List.map_cons, indentLines_cons, indentLines_cons, indentStep_eL, List.map_cons, List.map_cons, ih,
      sc_setLead_eL]

/-- what `alignChains` emits when a chain ends (`chain` is newest first) -/
def flush (cols : Line → Nat) (set : Line → Nat → Line) (chain : List Line) : List Line :=
  let m := chain.foldl (fun m l => max m (cols l)) 0
  chain.reverse.map fun l => set l (m - cols l + 1)

theorem alignChains_nil (has : Line → Bool) (cols : Line → Nat) (set : Line → Nat → Line) (chain : List Line) :
    alignChains has cols set [] chain = flush cols set chain := rfl

theorem alignChains_cons (has : Line → Bool) (cols : Line → Nat) (set : Line → Nat → Line)
    (l : Line) (ls chain : List Line) :
    alignChains has cols set (l :: ls) chain =
      if has l then alignChains has cols set ls (l :: chain)
      else flush cols set chain ++ l :: alignChains has cols set ls [] := rfl

theorem flush_inv {α : Type} (cols : Line → Nat) (set : Line → Nat → Line) (c : Line → α)
    (hc : ∀ l n, c (set l n) = c l) (chain : List Line) :
    (flush cols set chain).map c = chain.reverse.map c := by
  simp [flush, List.map_map, Function.comp_def, hc]

theorem alignChains_inv {α : Type} (has : Line → Bool) (cols : Line → Nat) (set : Line → Nat → Line)
    (c : Line → α) (hc : ∀ l n, c (set l n) = c l) (ls chain : List Line) :
    (alignChains has cols set ls chain).map c = chain.reverse.map c ++ ls.map c := by
  induction ls generalizing chain with
  | nil => simp [alignChains_nil, flush_inv cols set c hc]
  | cons l ls ih =>
    rw [alignChains_cons]
    split
    · simp [ih]
    · simp [ih, flush_inv cols set c hc]

theorem foldl_max_map (cols : Line → Nat) (f : Line → Line) (chain : List Line)
    (h : ∀ l ∈ chain, cols (f l) = cols l) (init : Nat) :
    (chain.map f).foldl (fun m l => max m (cols l)) init = chain.foldl (fun m l => max m (cols l)) init := by
  induction chain generalizing init with
  | nil => rfl
  | cons l ls ih =>
    simp only [List.map_cons, List.foldl_cons]
    rw [h l (by simp), ih (fun l hl => h l (by simp [hl]))]

theorem flush_map (cols : Line → Nat) (set : Line → Nat → Line) (f g : Line → Line) (P : Line → Prop)
    (h2 : ∀ l, P l → cols (f l) = cols l) (h3 : ∀ l n, P l → set (f l) n = g (set l n))
    (chain : List Line) (hp : ∀ l ∈ chain, P l) :
    flush cols set (chain.map f) = (flush cols set chain).map g := by
  simp only [flush]
  rw [foldl_max_map cols f chain (fun l hl => h2 l (hp l hl))]
  rw [← List.map_reverse, List.map_map, List.map_map]
  apply List.map_congr_left
  intro l hl
  have hpl := hp l (by simpa using hl)
  simp [h2 l hpl, h3 l _ hpl]

theorem alignChains_map (has : Line → Bool) (cols : Line → Nat) (set : Line → Nat → Line)
    (f g : Line → Line) (P : Line → Prop)
    (h1 : ∀ l, P l → has (f l) = has l) (h2 : ∀ l, P l → cols (f l) = cols l)
    (h3 : ∀ l n, P l → set (f l) n = g (set l n)) (h4 : ∀ l, P l → has l = false → f l = g l)
    (ls chain : List Line) (hls : ∀ l ∈ ls, P l) (hch : ∀ l ∈ chain, P l) :
    alignChains has cols set (ls.map f) (chain.map f) = (alignChains has cols set ls chain).map g := by
  induction ls generalizing chain with
  | nil => exact flush_map cols set f g P h2 h3 chain hch
  | cons l ls ih =>
    have hl := hls l (by simp)
    have hls' : ∀ l ∈ ls, P l := fun l h => hls l (by simp [h])
    simp only [List.map_cons, alignChains_cons, h1 l hl]
    cases hh : has l with
    | true =>
      simp only [if_true]
      rw [← List.map_cons, ih (l :: chain) hls']
      intro x hx
      rcases List.mem_cons.mp hx with rfl | hx
      · exact hl
      · exact hch x hx
    | false =>
      have := ih [] hls' (by simp)
      simp only [List.map_nil] at this
      simp [this, flush_map cols set f g P h2 h3 chain hch, h4 l hl hh]

theorem eL_alignAssign (ls : List Line) : (alignAssign ls).map eL = ls.map eL := by
  have := alignChains_inv (fun l => !l.assign.isEmpty) (fun l => columns l.lead)
    (fun l n => { l with assign := setHead n l.assign }) eL (by intro l n; simp [eL]) ls []
  simpa [alignAssign] using this

theorem eL_alignComment (ls : List Line) : (alignComment ls).map eL = ls.map eL := by
  have := alignChains_inv (fun l => !l.comment.isEmpty) (fun l => columns l.lead + columns l.assign)
    (fun l n => { l with comment := setHead n l.comment }) eL (by intro l n; simp [eL]) ls []
  simpa [alignComment] using this

theorem alignAssign_eC (ls : List Line) : alignAssign (ls.map eC) = (alignAssign ls).map eC := by
  have := alignChains_map (fun l => !l.assign.isEmpty) (fun l => columns l.lead)
    (fun l n => { l with assign := setHead n l.assign }) eC eC (fun _ => True)
    (by intros; rfl) (by intros; rfl) (by intros; rfl) (by intros; rfl) ls []
    (by intros; trivial) (by intros; trivial)
  simpa [alignAssign] using this

theorem alignComment_eC (ls : List Line) (hp : ∀ l ∈ ls, P l) :
    alignComment (ls.map eC) = alignComment ls := by
  have := alignChains_map (fun l => !l.comment.isEmpty) (fun l => columns l.lead + columns l.assign)
    (fun l n => { l with comment := setHead n l.comment }) eC id P
    (by intro l _; simp [eC]) (by intros; rfl)
    (by
      intro l n hl
      obtain ⟨lead, assign, comment⟩ := l
      simp only [P] at hl
      match comment, hl with
      | [], _ => rfl
      | [t], _ => rfl)
    (by
      intro l _ hh
      obtain ⟨lead, assign, comment⟩ := l
      cases comment with
      | nil => rfl
      | cons t r => simp at hh)
    ls [] hp (by simp)
  simpa [alignComment] using this

theorem eL_formatLines (R : Rules) (ls : List Line) : (formatLines R ls).map eL = ls.map eL := by
  simp [formatLines, eL_alignComment, eL_alignAssign, List.map_map, Function.comp_def, eL_indentLines]

/-- `formatLines` as a function of the erased lines -/
def G (R : Rules) (ls : List Line) : List Line :=
  alignComment (alignAssign ((indentLines R ls []).map (sc R)))

theorem formatLines_eq_G (R : Rules) (ls : List Line) (hp : ∀ l ∈ ls, P l) :
    formatLines R ls = G R (ls.map eL) := by
  have hP : ∀ l ∈ alignAssign ((indentLines R ls []).map (spaceLine R)), P l := by
    apply allP_of_map_eL _ hp
    simp [eL_alignAssign, List.map_map, Function.comp_def, eL_indentLines]
  unfold formatLines G
  rw [sc_indentLines_eL, ← alignComment_eC _ hP, ← alignAssign_eC, List.map_map]
  rfl

theorem formatLines_congr (R : Rules) (ls ls' : List Line) (h : ls.map eL = ls'.map eL)
    (hp : ∀ l ∈ ls, P l) (hp' : ∀ l ∈ ls', P l) : formatLines R ls = formatLines R ls' := by
  rw [formatLines_eq_G R ls hp, formatLines_eq_G R ls' hp', h]

def formatBody (R : Rules) (body : List Tok) : List Tok := flatten (formatLines R (linesOf R body))

/-- Also on the empty input, where `format` returns at once: there `linesOf` gives one empty line, which every
    pass leaves alone and `flatten` drops. -/
theorem format_eq (R : Rules) (ts : List Tok) :
    format R ts = formatBody R (stripEOF ts).1 ++ (stripEOF ts).2 := by
  cases ts <;> rfl

theorem formatBody_map_erase (R : Rules) (body : List Tok) :
    (formatBody R body).map erase = body.map erase := by
  rw [formatBody, flatten_map_erase, eL_formatLines, ← flatten_map_erase, flatten_linesOf]

theorem formatBody_congr (R : Rules) (b b' : List Tok) (h : b.map erase = b'.map erase) :
    formatBody R b = formatBody R b' := by
  unfold formatBody
  rw [formatLines_congr R (linesOf R b) (linesOf R b') _ (linesOf_P R b) (linesOf_P R b')]
  rw [← linesOf_erase, ← linesOf_erase, h]

theorem stripEOF_concat (xs : List Tok) (t : Tok) :
    stripEOF (xs ++ [t]) = if t.ty = tyEOF then (xs, [t]) else (xs ++ [t], []) := by
  simp [stripEOF]

theorem eofSp_concat (xs : List Tok) (t : Tok) :
    eofSp (xs ++ [t]) = if t.ty = tyEOF then t.sp else 0 := by
  simp [eofSp]

theorem stripEOF_append (ts : List Tok) : (stripEOF ts).1 ++ (stripEOF ts).2 = ts := by
  rcases List.eq_nil_or_concat ts with rfl | ⟨xs, t, rfl⟩
  · simp [stripEOF]
  · simp only [List.concat_eq_append, stripEOF_concat]; split <;> simp

theorem format_map_erase (R : Rules) (ts : List Tok) : (format R ts).map erase = ts.map erase := by
  rw [format_eq, List.map_append, formatBody_map_erase, ← List.map_append, stripEOF_append]

theorem concat_of_map_erase {xs ts' : List Tok} {t : Tok} (h : (xs ++ [t]).map erase = ts'.map erase) :
    ∃ xs' t', ts' = xs' ++ [t'] ∧ xs.map erase = xs'.map erase ∧ erase t = erase t' := by
  rcases List.eq_nil_or_concat ts' with rfl | ⟨xs', t', rfl⟩
  · simp at h
  · refine ⟨xs', t', by simp, ?_⟩
    simp only [List.concat_eq_append, List.map_append, List.map_cons, List.map_nil] at h
    have := List.append_inj' h rfl
    simpa using this

theorem format_indep (R : Rules) (ts ts' : List Tok) (h : ts.map erase = ts'.map erase)
    (he : eofSp ts = eofSp ts') : format R ts = format R ts' := by
  rcases List.eq_nil_or_concat ts with rfl | ⟨xs, t, rfl⟩
  · have : ts' = [] := by simpa using h.symm
    rw [this]
  · rw [List.concat_eq_append] at *
    obtain ⟨xs', t', rfl, hx, ht⟩ := concat_of_map_erase h
    have hty := ty_eq_of_erase ht
    rw [eofSp_concat, eofSp_concat, ← hty] at he
    rw [format_eq, format_eq, stripEOF_concat, stripEOF_concat, ← hty]
    by_cases hE : t.ty = tyEOF
    · simp only [hE, if_true] at he ⊢
      rw [tok_eq_of_erase ht he, formatBody_congr R xs xs' hx]
    · simp only [hE, if_false]
      rw [formatBody_congr R (xs ++ [t]) (xs' ++ [t']) h]

theorem eofSp_format (R : Rules) (ts : List Tok) : eofSp (format R ts) = eofSp ts := by
  rcases List.eq_nil_or_concat ts with rfl | ⟨xs, t, rfl⟩
  · rfl
  · rw [List.concat_eq_append] at *
    by_cases hE : t.ty = tyEOF
    · rw [format_eq, stripEOF_concat]
      simp [hE, eofSp_concat]
    · have h := (format_map_erase R (xs ++ [t])).symm
      obtain ⟨ys, u, hy, _, hu⟩ := concat_of_map_erase h
      have hty := ty_eq_of_erase hu
      rw [hy, eofSp_concat, eofSp_concat, ← hty]
      simp [hE]

theorem format_idem (R : Rules) (ts : List Tok) : format R (format R ts) = format R ts :=
  format_indep R (format R ts) ts (format_map_erase R ts) (eofSp_format R ts)

end HclModel.Format.Proofs
