import HclModel.Dyn.Expand
/-!
Basic facts about `HclModel/Dyn/Expand.lean` (model of `ext/dynblock`): the label loop, `genBlocks`,
`decodeSpec` / `expandDyn`.
-/
namespace HclModel.Dyn.Proofs
open HclModel HclModel.Body HclModel.Dyn

theorem allSome_eq_some_iff {α : Type} (l : List (Option α)) (r : List α) :
    allSome l = some r ↔ l = r.map some := by
  induction l generalizing r with
  | nil => cases r <;> simp [allSome]
  | cons a l ih =>
    cases a with
    | none => cases r <;> simp [allSome]
    | some a =>
      cases r with
      | nil => simp [allSome]
      | cons b r =>
        simp only [allSome, Option.map_eq_some_iff, List.map_cons, List.cons.injEq, Option.some.injEq]
        constructor
        · rintro ⟨r', h1, h2, h3⟩
          exact ⟨h2, by rw [← h3]; exact (ih r').1 h1⟩
        · rintro ⟨h1, h2⟩
          exact ⟨r, (ih r).2 h2, h1, rfl⟩

theorem allSome_nil {α : Type} : allSome ([] : List (Option α)) = some [] := rfl

theorem allSome_cons_eq_some {α : Type} (a : Option α) (l : List (Option α)) (r : List α) :
    allSome (a :: l) = some r ↔ ∃ x xs, a = some x ∧ allSome l = some xs ∧ r = x :: xs := by
  cases a with
  | none => simp [allSome]
  | some a =>
    simp only [allSome, Option.map_eq_some_iff, Option.some.injEq]
    constructor
    · rintro ⟨xs, h1, h2⟩; exact ⟨a, xs, rfl, h1, h2.symm⟩
    · rintro ⟨x, xs, rfl, h1, h2⟩; exact ⟨xs, h1, h2.symm⟩

theorem allSome_map_mono {α β : Type} (f g : α → Option β) (l : List α) (r : List β)
    (hfg : ∀ a ∈ l, ∀ b, f a = some b → g a = some b) (h : allSome (l.map f) = some r) :
    allSome (l.map g) = some r := by
  induction l generalizing r with
  | nil => simpa using h
  | cons a l ih =>
    rw [List.map_cons, allSome_cons_eq_some] at h
    obtain ⟨x, xs, h1, h2, rfl⟩ := h
    rw [List.map_cons, allSome_cons_eq_some]
    exact ⟨x, xs, hfg a (by simp) x h1, ih xs (fun a' ha' => hfg a' (by simp [ha'])) h2, rfl⟩

theorem evalLabels_cons (ev : Env → Expr → Out) (ρ : Env) (e : Expr) (rest : List Expr) :
    (evalLabels ev ρ (e :: rest)).1 = none ∨
    ∃ txt, (evalLabels ev ρ (e :: rest)).1 = (evalLabels ev ρ rest).1.map (txt :: ·) := by
  rw [evalLabels]
  generalize ev ρ e = o
  by_cases c1 : (!o.2.isEmpty) = true
  · rw [if_pos c1]; exact .inl rfl
  rw [if_neg c1]
  cases convert o.1 .str with
  | error _ => exact .inl rfl
  | ok s =>
    simp only
    by_cases c2 : s.isNull = true
    · rw [if_pos c2]; exact .inl rfl
    by_cases c3 : (!s.isKnown) = true
    · rw [if_neg c2, if_pos c3]; exact .inl rfl
    by_cases c4 : s.isMarked = true
    · rw [if_neg c2, if_neg c3, if_pos c4]; exact .inl rfl
    rw [if_neg c2, if_neg c3, if_neg c4]
    cases s with
    | str _ txt => exact .inr ⟨txt, rfl⟩
    | _ => exact .inl rfl

theorem evalLabels_length (ev : Env → Expr → Out) (ρ : Env) (es : List Expr) (l : List String)
    (h : (evalLabels ev ρ es).1 = some l) : l.length = es.length := by
  induction es generalizing l with
  | nil => cases h; rfl
  | cons e rest ih =>
    rcases evalLabels_cons ev ρ e rest with h' | ⟨txt, h'⟩ <;> rw [h'] at h
    · cases h
    · obtain ⟨l', h1, rfl⟩ := Option.map_eq_some_iff.1 h
      simp [ih l' h1]

theorem genBlocks_nil (ev : Env → Expr → Out) (ρf : Env) (its : Iters) (name : String) (m : Fl) (lexprs : List Expr)
    (type : String) (content : SBody) (unknown : Option Fl) :
    genBlocks ev ρf its name m lexprs type content unknown [] = ([], []) := rfl

theorem genBlocks_cons_fst (ev : Env → Expr → Out) (ρf : Env) (its : Iters) (name : String) (m : Fl) (lexprs : List Expr)
    (type : String) (content : SBody) (unknown : Option Fl) (k v : Val) (rest : List (Val × Val)) :
    (genBlocks ev ρf its name m lexprs type content unknown ((k, v) :: rest)).1 =
      (match (evalLabels ev (iterEnv ((name, k, v) :: its) ++ ρf) lexprs).1 with
        | some l => [⟨type, l, { src := content, its := (name, k, v) :: its, marks := m, unknown := unknown }⟩]
        | none => []) ++
      (genBlocks ev ρf its name m lexprs type content unknown rest).1 := by
  simp only [genBlocks]
  split <;> simp_all

theorem genBlocks_mem (ev : Env → Expr → Out) (ρf : Env) (its : Iters) (name : String) (m : Fl) (lexprs : List Expr)
    (type : String) (content : SBody) (unknown : Option Fl) (kvs : List (Val × Val)) (blk : XBlock)
    (h : blk ∈ (genBlocks ev ρf its name m lexprs type content unknown kvs).1) :
    blk.type = type ∧ blk.labels.length = lexprs.length ∧ blk.body.src = content ∧ blk.body.marks = m ∧
    blk.body.unknown = unknown ∧ blk.body.hiddenAttrs = [] ∧ blk.body.hiddenBlocks = [] ∧
    ∃ k v, (k, v) ∈ kvs ∧ blk.body.its = (name, k, v) :: its := by
  induction kvs with
  | nil => simp [genBlocks] at h
  | cons kv rest ih =>
    obtain ⟨k, v⟩ := kv
    rw [genBlocks_cons_fst, List.mem_append] at h
    rcases h with h | h
    · split at h
      · rename_i l hl
        simp only [List.mem_singleton] at h
        subst h
        exact ⟨rfl, evalLabels_length _ _ _ _ hl, rfl, rfl, rfl, rfl, rfl, k, v, by simp, rfl⟩
      · simp at h
    · obtain ⟨h1, h2, h3, h4, h5, h6, h7, k', v', hm, h8⟩ := ih h
      exact ⟨h1, h2, h3, h4, h5, h6, h7, k', v', by simp [hm], h8⟩

theorem genBlocks_length_le (ev : Env → Expr → Out) (ρf : Env) (its : Iters) (name : String) (m : Fl) (lexprs : List Expr)
    (type : String) (content : SBody) (unknown : Option Fl) (kvs : List (Val × Val)) :
    (genBlocks ev ρf its name m lexprs type content unknown kvs).1.length ≤ kvs.length := by
  induction kvs with
  | nil => simp [genBlocks]
  | cons kv rest ih =>
    obtain ⟨k, v⟩ := kv
    rw [genBlocks_cons_fst]
    split <;> simp <;> omega

theorem elements_some {u : Val} {kvs : List (Val × Val)} (h : elements u = some kvs) :
    canIterate u.typeOf = true ∧ u.isNull = false ∧ u.isKnown = true := by
  cases u <;> simp [elements] at h <;> simp [canIterate, Val.typeOf, Val.isNull, Val.isKnown]

theorem decodeSpec_cases (ev : Env → Expr → Out) (ρf : Env) (its : Iters) (lc : Nat) (t : String) (fe : Expr)
    (itn : Option String) (labels : Option (List Expr)) :
    (∃ k, decodeSpec ev ρf its lc t fe itn labels = .err k) ∨
    (labels.getD []).length = lc ∧ (ev (iterEnv its ++ ρf) fe).2.isEmpty = true ∧
      ((∃ kvs, elements (ev (iterEnv its ++ ρf) fe).1.unmark.1 = some kvs ∧
          decodeSpec ev ρf its lc t fe itn labels =
            .known (itn.getD t) (ev (iterEnv its ++ ρf) fe).1.unmark.2 (labels.getD []) kvs) ∨
        decodeSpec ev ρf its lc t fe itn labels =
          .unknown (itn.getD t) (ev (iterEnv its ++ ρf) fe).1.unmark.2 (labels.getD [])) := by
  generalize h : decodeSpec ev ρf its lc t fe itn labels = r
  unfold decodeSpec at h
  generalize ev (iterEnv its ++ ρf) fe = o at h ⊢
  -- one branch of the definition after the other; every early exit is an error
  by_cases c1 : (decide (lc = 0) && labels.isSome) = true
  · rw [if_pos c1] at h; exact .inl ⟨_, h.symm⟩
  by_cases c2 : (decide (lc ≠ 0) && labels.isNone) = true
  · rw [if_neg c1, if_pos c2] at h; exact .inl ⟨_, h.symm⟩
  rw [if_neg c1, if_neg c2] at h
  simp only at h
  by_cases c3 : (!o.2.isEmpty) = true
  · rw [if_pos c3] at h; exact .inl ⟨_, h.symm⟩
  by_cases c4 : (!canIterate o.1.unmark.1.typeOf && !o.1.unmark.1.typeOf == Ty.dyn) = true
  · rw [if_neg c3, if_pos c4] at h; exact .inl ⟨_, h.symm⟩
  by_cases c5 : o.1.unmark.1.isNull = true
  · rw [if_neg c3, if_neg c4, if_pos c5] at h; exact .inl ⟨_, h.symm⟩
  by_cases c6 : (labels.getD []).length > lc
  · rw [if_neg c3, if_neg c4, if_neg c5, if_pos c6] at h; exact .inl ⟨_, h.symm⟩
  by_cases c7 : (labels.getD []).length < lc
  · rw [if_neg c3, if_neg c4, if_neg c5, if_neg c6, if_pos c7] at h; exact .inl ⟨_, h.symm⟩
  rw [if_neg c3, if_neg c4, if_neg c5, if_neg c6, if_neg c7] at h
  have hlen : (labels.getD []).length = lc := by omega
  have hd : o.2.isEmpty = true := by simpa using c3
  by_cases c8 : o.1.unmark.1.isKnown = true
  · rw [if_pos c8] at h
    cases he : elements o.1.unmark.1 with
    | none => rw [he] at h; exact .inl ⟨_, h.symm⟩
    | some kvs => rw [he] at h; exact .inr ⟨hlen, hd, .inl ⟨kvs, rfl, h.symm⟩⟩
  · rw [if_neg c8] at h; exact .inr ⟨hlen, hd, .inr h.symm⟩

theorem decodeSpec_known (ev : Env → Expr → Out) (ρf : Env) (its : Iters) (lc : Nat) (t : String) (fe : Expr)
    (itn : Option String) (labels : Option (List Expr)) (kvs : List (Val × Val))
    (hd : (ev (iterEnv its ++ ρf) fe).2.isEmpty = true)
    (he : elements (ev (iterEnv its ++ ρf) fe).1.unmark.1 = some kvs)
    (hl : labels ≠ some []) (hlc : (labels.getD []).length = lc) :
    decodeSpec ev ρf its lc t fe itn labels =
      .known (itn.getD t) (ev (iterEnv its ++ ρf) fe).1.unmark.2 (labels.getD []) kvs := by
  obtain ⟨h1, h2, h3⟩ := elements_some he
  subst hlc
  unfold decodeSpec
  -- the label tests pass: `labels` is absent when no label is wanted (`some []` is excluded), present otherwise
  cases labels with
  | none => simp [hd, h1, h2, h3, he]
  | some l =>
    cases l with
    | nil => exact absurd rfl hl
    | cons a l => simp [hd, h1, h2, h3, he]

theorem expandDyn_known (ev : Env → Expr → Out) (ρf : Env) (its : Iters) (lc : Nat) (t : String) (fe : Expr)
    (itn : Option String) (labels : Option (List Expr)) (content : SBody) (kvs : List (Val × Val))
    (hd : (ev (iterEnv its ++ ρf) fe).2.isEmpty = true)
    (he : elements (ev (iterEnv its ++ ρf) fe).1.unmark.1 = some kvs)
    (hl : labels ≠ some []) :
    (expandDyn ev ρf its lc t fe itn labels content).1 =
      if (labels.getD []).length = lc then
        (genBlocks ev ρf its (itn.getD t) (ev (iterEnv its ++ ρf) fe).1.unmark.2 (labels.getD []) t content none kvs).1
      else [] := by
  unfold expandDyn
  by_cases hlc : (labels.getD []).length = lc
  · rw [decodeSpec_known ev ρf its lc t fe itn labels kvs hd he hl hlc, if_pos hlc]
  · rw [if_neg hlc]
    rcases decodeSpec_cases ev ρf its lc t fe itn labels with ⟨k, hk⟩ | ⟨h, _⟩
    · rw [hk]
    · exact absurd h hlc

theorem expandDyn_mem (ev : Env → Expr → Out) (ρf : Env) (its : Iters) (lc : Nat) (t : String) (fe : Expr)
    (itn : Option String) (labels : Option (List Expr)) (content : SBody) (xb : XBlock)
    (h : xb ∈ (expandDyn ev ρf its lc t fe itn labels content).1) :
    xb.type = t ∧ xb.body.src = content ∧ xb.body.marks = (ev (iterEnv its ++ ρf) fe).1.unmark.2 ∧
    xb.body.hiddenAttrs = [] ∧ xb.body.hiddenBlocks = [] ∧ ∃ k v, xb.body.its = (itn.getD t, k, v) :: its := by
  unfold expandDyn at h
  rcases decodeSpec_cases ev ρf its lc t fe itn labels with ⟨k, hd⟩ | ⟨_, _, ⟨kvs, _, hd⟩ | hd⟩ <;> rw [hd] at h
  · simp at h
  all_goals
    obtain ⟨h1, _, h3, h4, _, h6, h7, k, v, _, h8⟩ := genBlocks_mem _ _ _ _ _ _ _ _ _ _ _ h
    exact ⟨h1, h3, h4, h6, h7, k, v, h8⟩

theorem unknown_for_each (ev : Env → Expr → Out) (ρf : Env) (its : Iters) (lc : Nat) (type : String)
    (fe : Expr) (itn : Option String) (labels : Option (List Expr)) (content : SBody) (name : String) (m : Fl) (lexprs : List Expr)
    (h : decodeSpec ev ρf its lc type fe itn labels = .unknown name m lexprs) :
    (expandDyn ev ρf its lc type fe itn labels content).1.length ≤ 1 ∧
    ∀ blk ∈ (expandDyn ev ρf its lc type fe itn labels content).1, blk.body.unknown = some m ∧ blk.body.marks = m := by
  unfold expandDyn
  rw [h]
  refine ⟨by simpa using genBlocks_length_le ev ρf its name m lexprs type content (some m) [(Val.dynVal, Val.dynVal)], ?_⟩
  intro blk hblk
  obtain ⟨_, _, _, h4, h5, _⟩ := genBlocks_mem _ _ _ _ _ _ _ _ _ _ _ hblk
  exact ⟨h5, h4⟩

end HclModel.Dyn.Proofs
