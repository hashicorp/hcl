import HclModel.Json.ScanPos
import Proofs.JsonScan
/-!
The JSON scanner with positions (`HclModel/Json/ScanPos.lean`) for C14: without lines and columns it is the scanner
of C13 (`erase_gen`); every position it reports is the one reached from the start over a prefix of the input
(`Reach`, `At`), columns only for one-byte clusters on input without tab and carriage return; `Shape` for invalid bytes.
-/
namespace HclModel.Json.Proofs
open HclModel.Json HclModel.Pos

/-- the recount `colAt` as a left fold -/
def colF : Nat → List Byte → Nat
  | c, [] => c
  | c, x :: r => if x = 10 then colF 1 r else colF (c + 1) r

theorem colF_append (c : Nat) (a b : List Byte) : colF c (a ++ b) = colF (colF c a) b := by
  induction a generalizing c with
  | nil => rfl
  | cons x a ih =>
    simp only [List.cons_append, colF]
    split <;> exact ih _

theorem colAt_snoc (c : Nat) (pre : List Byte) (x : Byte) :
    colAt c (pre ++ [x]) = if x = 10 then 1 else colAt c pre + 1 := by
  unfold colAt
  by_cases hx : x = 10
  · subst hx; simp
  · have hx' : (10 : Nat) ≠ x := fun h => hx h.symm
    simp only [List.mem_append, List.mem_singleton, hx', or_false, List.reverse_append, List.reverse_cons,
      List.reverse_nil, List.nil_append, List.cons_append, List.takeWhile_cons, bne_iff_ne, ne_eq, hx,
      not_false_eq_true, if_true, List.length_cons, List.length_append, List.length_nil, if_false]
    split <;> omega

theorem colAt_eq_colF_rev (c : Nat) (pre : List Byte) : colAt c pre.reverse = colF c pre.reverse := by
  induction pre with
  | nil => simp [colAt, colF]
  | cons x pre ih =>
    rw [List.reverse_cons, colAt_snoc, colF_append, ← ih]
    simp only [colF]

theorem colAt_eq_colF (c : Nat) (pre : List Byte) : colAt c pre = colF c pre := by
  have := colAt_eq_colF_rev c pre.reverse
  rwa [List.reverse_reverse] at this

theorem colAt_append (c : Nat) (a b : List Byte) : colAt c (a ++ b) = colAt (colAt c a) b := by
  simp only [colAt_eq_colF, colF_append]

theorem colAt_flat (c : Nat) {pre : List Byte} (h : 10 ∉ pre) : colAt c pre = c + pre.length := by
  rw [colAt, if_neg h]

/-- `q` is the position `pre` bytes after `p`: bytes and lines always; columns under the condition `C`
    (the hypotheses of `jscan_cols_no_tab_cr`) -/
structure Reach (C : Prop) (pre : List Byte) (p q : P) : Prop where
  byte : q.byte = p.byte + pre.length
  line : q.line = p.line + pre.count 10
  col : C → q.col = colAt p.col pre

theorem Reach.refl {C : Prop} (p : P) : Reach C [] p p :=
  ⟨by simp, by simp, fun _ => by simp [colAt]⟩

theorem Reach.trans {C : Prop} {a b : List Byte} {p q r : P} (h1 : Reach C a p q) (h2 : Reach C b q r) :
    Reach C (a ++ b) p r :=
  ⟨by rw [h2.byte, h1.byte, List.length_append]; omega,
   by rw [h2.line, h1.line, List.count_append]; omega,
   fun c => by rw [h2.col c, h1.col c, colAt_append]⟩

theorem Reach.flat {C : Prop} {pre : List Byte} {p q : P} (hn : 10 ∉ pre)
    (hb : q.byte = p.byte + pre.length) (hl : q.line = p.line) (hc : C → q.col = p.col + pre.length) :
    Reach C pre p q := by
  refine ⟨hb, ?_, fun c => by rw [hc c, colAt_flat _ hn]⟩
  rw [hl, List.count_eq_zero.mpr hn]; rfl

def NoTabCR (l : List Byte) : Prop := ∀ b ∈ l, b ≠ 9 ∧ b ≠ 13

theorem NoTabCR.sub {l l' : List Byte} (h : NoTabCR l) (hs : ∀ x ∈ l', x ∈ l) : NoTabCR l' :=
  fun x hx => h x (hs x hx)

theorem skip_cons {C : Prop} {b : Byte} {rest : List Byte} {p p' : P} {r : List Byte × P}
    (ih : r.1 = rest.dropWhile isWs ∧ Reach C (rest.takeWhile isWs) p' r.2) (hw : isWs b = true)
    (hr : Reach C [b] p p') :
    r.1 = (b :: rest).dropWhile isWs ∧ Reach C ((b :: rest).takeWhile isWs) p r.2 := by
  rw [List.dropWhile_cons, List.takeWhile_cons, hw]
  exact ⟨ih.1, hr.trans ih.2⟩

/-- a tab counts two columns and a carriage return none, so `C` excludes them -/
theorem skip_spec (C : Prop) (buf : List Byte) (p : P) : (C → NoTabCR buf) →
    (skipWhitespaceP buf p).1 = buf.dropWhile isWs ∧
    Reach C (buf.takeWhile isWs) p (skipWhitespaceP buf p).2 := by
  fun_induction skipWhitespaceP buf p with
  | case1 p => exact fun _ => ⟨rfl, Reach.refl p⟩
  | case2 rest p ih =>
    exact fun hC => skip_cons (ih fun c => (hC c).sub fun _ => List.mem_cons_of_mem _) (by decide)
      ⟨rfl, rfl, fun _ => rfl⟩
  | case3 rest p _ ih =>
    exact fun hC => skip_cons (ih fun c => (hC c).sub fun _ => List.mem_cons_of_mem _) (by decide)
      ⟨rfl, rfl, fun _ => rfl⟩
  | case4 rest p _ _ ih =>
    exact fun hC => skip_cons (ih fun c => (hC c).sub fun _ => List.mem_cons_of_mem _) (by decide)
      ⟨rfl, rfl, fun c => absurd rfl ((hC c) 13 List.mem_cons_self).2⟩
  | case5 rest p _ _ _ ih =>
    exact fun hC => skip_cons (ih fun c => (hC c).sub fun _ => List.mem_cons_of_mem _) (by decide)
      ⟨rfl, rfl, fun c => absurd rfl ((hC c) 9 List.mem_cons_self).1⟩
  | case6 b rest p h32 h10 h13 h9 =>
    have hw : isWs b = false := by simp [isWs, h32, h10, h13, h9]
    rw [List.dropWhile_cons, List.takeWhile_cons, hw]
    exact fun _ => ⟨rfl, Reach.refl p⟩

/-- `scanNumberP` and `scanKeywordP` are one loop over a byte class `p`: the longest prefix in `p`, a column
    per byte -/
theorem runP_spec {p : Byte → Bool} {g : List Byte → P → List Byte × List Byte × P}
    (hnil : ∀ q, g [] q = ([], [], q))
    (hcons : ∀ b rest q, g (b :: rest) q =
      if p b then (b :: (g rest (step1 q)).1, (g rest (step1 q)).2.1, (g rest (step1 q)).2.2)
      else ([], b :: rest, q)) :
    ∀ (buf : List Byte) (q : P), g buf q = (buf.takeWhile p, buf.dropWhile p,
      ⟨q.byte + (buf.takeWhile p).length, q.line, q.col + (buf.takeWhile p).length⟩)
  | [], q => hnil q
  | b :: rest, q => by
    rw [hcons, runP_spec hnil hcons rest, List.takeWhile_cons, List.dropWhile_cons]
    cases p b with
    | false => rfl
    | true => simp only [if_true, step1, List.length_cons, Nat.add_assoc, Nat.add_comm 1]

theorem scanNumberP_spec (buf : List Byte) (p : P) :
    scanNumberP buf p = (buf.takeWhile isNumberByte, buf.dropWhile isNumberByte,
      ⟨p.byte + (buf.takeWhile isNumberByte).length, p.line, p.col + (buf.takeWhile isNumberByte).length⟩) :=
  runP_spec (fun _ => rfl) (fun _ _ _ => rfl) buf p

theorem scanKeywordP_spec (buf : List Byte) (p : P) :
    scanKeywordP buf p = (buf.takeWhile isKeywordByte, buf.dropWhile isKeywordByte,
      ⟨p.byte + (buf.takeWhile isKeywordByte).length, p.line, p.col + (buf.takeWhile isKeywordByte).length⟩) :=
  runP_spec (fun _ => rfl) (fun _ _ _ => rfl) buf p

theorem scanStringBodyP_spec (adv : List Byte → Nat) (fuel : Nat) (buf : List Byte) (esc : Bool) (p : P) :
    (scanStringBodyP adv fuel buf esc p).1 = scanStringBody adv fuel buf esc ∧
    (scanStringBodyP adv fuel buf esc p).2.byte = p.byte + scanStringBody adv fuel buf esc ∧
    (scanStringBodyP adv fuel buf esc p).2.line = p.line ∧
    ((∀ l, adv l = 1) → (scanStringBodyP adv fuel buf esc p).2.col = p.col + scanStringBody adv fuel buf esc) := by
  fun_induction scanStringBodyP adv fuel buf esc p with
  | case1 => simp [scanStringBody]
  | case2 => simp [scanStringBody]
  | case3 fuel rest esc p r ih =>
    simp only [r, step1, scanStringBody, if_true] at ih ⊢
    obtain ⟨i1, i2, i3, i5⟩ := ih
    exact ⟨by rw [i1], by rw [i2, Nat.add_assoc], i3, fun h => by rw [i5 h, Nat.add_assoc]⟩
  | case4 fuel rest esc p h =>
    simp only [scanStringBody, if_neg (show ¬ (34 : Byte) = 92 by decide), if_true, h, step1]
    exact ⟨trivial, trivial, trivial, fun _ => trivial⟩
  | case5 fuel rest esc p h r _ ih =>
    simp only [r, step1, scanStringBody, if_neg (show ¬ (34 : Byte) = 92 by decide), if_true, if_neg h] at ih ⊢
    obtain ⟨i1, i2, i3, i5⟩ := ih
    exact ⟨by rw [i1], by rw [i2, Nat.add_assoc], i3, fun h => by rw [i5 h, Nat.add_assoc]⟩
  | case6 fuel b rest esc p h92 h34 hlt =>
    simp only [scanStringBody, if_neg h92, if_neg h34, if_pos hlt]
    exact ⟨trivial, rfl, trivial, fun _ => rfl⟩
  | case7 fuel b rest esc p h92 h34 hlt a0 a1 a r ih =>
    simp only [r, a, a1, a0, scanStringBody, if_neg h92, if_neg h34, if_neg hlt] at ih ⊢
    obtain ⟨i1, i2, i3, i5⟩ := ih
    refine ⟨by rw [i1], by rw [i2, Nat.add_assoc], i3, fun h => ?_⟩
    -- a one-byte cluster is not clamped: `clampAdv 1 rest` is `1` by computation
    have h1 : clampAdv (min (max 1 (adv (b :: rest))) (rest.length + 1)) rest = 1 := by
      rw [h, Nat.max_self, Nat.min_eq_left (Nat.le_add_left 1 _)]; rfl
    have := i5 h
    rw [h1] at this ⊢
    omega

/-- the position reached behind the token of length `n` at the head of `b :: rest` -/
def tokEnd (adv : List Byte → Nat) (b : Byte) (rest : List Byte) (n : Nat) (p : P) : P :=
  if b = 34 then (scanStringP adv (b :: rest) p).2.2 else ⟨p.byte + n, p.line, p.col + n⟩

theorem tokEnd_spec {adv : List Byte → Nat} {b : Byte} {rest : List Byte} {ty : TT} {n : Nat}
    (h : lex1 adv b rest = some (ty, n)) (p : P) :
    (tokEnd adv b rest n p).byte = p.byte + n ∧ (tokEnd adv b rest n p).line = p.line ∧
      ((∀ l, adv l = 1) → (tokEnd adv b rest n p).col = p.col + n) := by
  unfold tokEnd
  by_cases h34 : b = 34
  · subst h34
    cases (lex1_quote adv rest).symm.trans h
    obtain ⟨-, i2, i3, i5⟩ := scanStringBodyP_spec adv ((34 :: rest).length + 1) rest false (step1 p)
    have hle := (scanStringBody_bytes adv ((34 :: rest).length + 1) rest false).1
    simp only [if_true, scanStringP, scanStringLen, List.tail_cons, step1] at i2 i3 i5 ⊢
    exact ⟨by omega, i3, fun h => by have := i5 h; omega⟩
  · rw [if_neg h34]
    exact ⟨rfl, rfl, fun _ => rfl⟩

theorem tokEnd_reach (C : Prop) {adv : List Byte → Nat} (hadv : C → ∀ l, adv l = 1) {b : Byte} {rest : List Byte}
    {ty : TT} {n : Nat} (h : lex1 adv b rest = some (ty, n)) (p : P) :
    Reach C ((b :: rest).take n) p (tokEnd adv b rest n p) := by
  obtain ⟨h1, h2, h3⟩ := tokEnd_spec h p
  have hl : ((b :: rest).take n).length = n := by
    rw [List.length_take, List.length_cons]; have := (lex1_spec h).2.1; omega
  exact Reach.flat (lex1_spec h).2.2.1 (by rw [hl]; exact h1) h2 (fun c => by rw [hl]; exact h3 (hadv c))

theorem scanFromP_succ (adv : List Byte → Nat) (f : Nat) (buf : List Byte) (p : P) :
    scanFromP adv (f + 1) buf p =
      match (skipWhitespaceP buf p).1 with
      | [] => [⟨.eof, [], (skipWhitespaceP buf p).2, (skipWhitespaceP buf p).2⟩]
      | b :: rest =>
        match lex1 adv b rest with
        | some (ty, n) =>
          ⟨ty, (b :: rest).take n, (skipWhitespaceP buf p).2, tokEnd adv b rest n (skipWhitespaceP buf p).2⟩ ::
            scanFromP adv f ((b :: rest).drop n) (tokEnd adv b rest n (skipWhitespaceP buf p).2)
        | none =>
          [⟨.invalid, [b], (skipWhitespaceP buf p).2, step1 (skipWhitespaceP buf p).2⟩,
           ⟨.eof, [], step1 (skipWhitespaceP buf p).2, step1 (skipWhitespaceP buf p).2⟩] := by
  simp only [scanFromP]
  generalize (skipWhitespaceP buf p).2 = q
  cases (skipWhitespaceP buf p).1 with
  | nil => rfl
  | cons b rest =>
    fun_cases lex1 adv b rest with
    | case1 ty hp =>
      have h34 : b ≠ 34 := by rintro rfl; cases hp
      simp only [lex1, tokEnd, hp, if_neg h34]
      rfl
    | case2 hp h34 =>
      simp only [lex1, tokEnd, hp, if_pos h34, scanStringP, scanStringLen, (scanStringBodyP_spec ..).1,
        List.length_cons]
    | case3 hp h34 hn =>
      simp only [lex1, tokEnd, hp, if_neg h34, if_pos hn, scanNumberP_spec, take_length_takeWhile,
        drop_length_takeWhile]
    | case4 hp h34 hn ha =>
      simp only [lex1, tokEnd, hp, if_neg h34, if_neg hn, if_pos ha, scanKeywordP_spec, take_length_takeWhile,
        drop_length_takeWhile]
    | case5 hp h34 hn ha => simp only [lex1, hp, if_neg h34, if_neg hn, if_neg ha]

theorem lex1_ty {adv : List Byte → Nat} {b : Byte} {rest : List Byte} {ty : TT} {n : Nat}
    (h : lex1 adv b rest = some (ty, n)) : ty ≠ .invalid ∧ ty ≠ .eof := by
  rcases (lex1_spec h).2.2.2 with ⟨hp, _⟩ | rfl | rfl | rfl
  · exact ⟨(punct_ty_ne hp).2.2.2.2, (punct_ty_ne hp).1⟩
  all_goals exact ⟨by decide, by decide⟩

/-- `q` is a position inside (or at the end of) `buf`, which starts at `p` -/
def At (C : Prop) (buf : List Byte) (p q : P) : Prop := ∃ k, k ≤ buf.length ∧ Reach C (buf.take k) p q

theorem At.here {C : Prop} (buf : List Byte) (p : P) : At C buf p p :=
  ⟨0, Nat.zero_le _, by rw [List.take_zero]; exact Reach.refl p⟩

theorem At.pre {C : Prop} {pre : List Byte} {p q : P} (buf : List Byte) (h : Reach C pre p q) :
    At C (pre ++ buf) p q :=
  ⟨pre.length, by simp, by rw [List.take_left' rfl]; exact h⟩

theorem At.shift {C : Prop} {pre buf : List Byte} {p p' q : P} (h : Reach C pre p p') (h2 : At C buf p' q) :
    At C (pre ++ buf) p q := by
  obtain ⟨k, hk, hr⟩ := h2
  refine ⟨pre.length + k, by simp only [List.length_append]; omega, ?_⟩
  rw [List.take_length_add_append]
  exact h.trans hr

def Good (C : Prop) (buf : List Byte) (p : P) (t : PTok) : Prop :=
  At C buf p t.start ∧ At C buf p t.stop ∧ t.stop.byte = t.start.byte + t.bytes.length

theorem good_eof (C : Prop) (buf : List Byte) (p : P) : Good C buf p ⟨.eof, [], p, p⟩ :=
  ⟨At.here _ _, At.here _ _, rfl⟩

theorem good_cons {C : Prop} {w d tok buf' : List Byte} {p p1 p2 : P} {ty : TT} {ts : List PTok}
    (heq : d = tok ++ buf') (hw : Reach C w p p1) (ht : Reach C tok p1 p2)
    (hts : ∀ t ∈ ts, Good C buf' p2 t) :
    ∀ t ∈ (⟨ty, tok, p1, p2⟩ :: ts : List PTok), Good C (w ++ d) p t := by
  subst heq
  intro t hm
  rw [← List.append_assoc]
  rcases List.mem_cons.mp hm with hm | hm
  · subst hm
    refine ⟨?_, At.pre _ (hw.trans ht), ht.byte⟩
    rw [List.append_assoc]
    exact At.pre _ hw
  · obtain ⟨g1, g2, g3⟩ := hts t hm
    exact ⟨At.shift (hw.trans ht) g1, At.shift (hw.trans ht) g2, g3⟩

theorem reach_one {C : Prop} {b : Byte} (hb : b ≠ 10) (p : P) : Reach C [b] p (step1 p) :=
  Reach.flat (fun hm => hb (List.mem_singleton.mp hm).symm) rfl rfl (fun _ => rfl)

theorem scanFromP_good (adv : List Byte → Nat) (C : Prop) (hadv : C → ∀ l, adv l = 1) :
    ∀ (fuel : Nat) (buf : List Byte) (p : P), (C → NoTabCR buf) →
      ∀ t ∈ scanFromP adv fuel buf p, Good C buf p t := by
  intro fuel
  induction fuel with
  | zero =>
    intro buf p _ t ht
    simp only [scanFromP, List.mem_singleton] at ht
    subst ht
    exact good_eof _ _ _
  | succ fuel ih =>
    intro buf p hC t ht
    obtain ⟨hs1, hs2⟩ := skip_spec C buf p hC
    rw [scanFromP_succ, hs1] at ht
    have hbuf : buf = buf.takeWhile isWs ++ buf.dropWhile isWs := List.takeWhile_append_dropWhile.symm
    have hhead : ∀ h, isWs ((buf.dropWhile isWs).head h) = false := List.head_dropWhile_not isWs
    generalize (skipWhitespaceP buf p).2 = p1 at hs2 ht
    generalize buf.takeWhile isWs = w at hbuf hs2
    generalize buf.dropWhile isWs = d at hbuf ht hhead
    subst hbuf
    cases d with
    | nil =>
      simp only [List.mem_singleton] at ht
      subst ht
      exact ⟨At.pre _ hs2, At.pre _ hs2, rfl⟩
    | cons b rest =>
      dsimp only at ht
      cases hx : lex1 adv b rest with
      | some tn =>
        rw [hx] at ht
        exact good_cons (List.take_append_drop tn.2 _).symm hs2 (tokEnd_reach C hadv hx p1)
          (ih _ _ fun c => (hC c).sub fun _ hx => List.mem_append_right _ (List.mem_of_mem_drop hx)) t ht
      | none =>
        rw [hx] at ht
        have hb10 : b ≠ 10 := by have := hhead (List.cons_ne_nil _ _); rintro rfl; cases this
        refine good_cons (tok := [b]) (buf' := rest) rfl hs2 (reach_one hb10 p1) ?_ t ht
        intro t' ht'
        rw [List.mem_singleton.mp ht']
        exact good_eof _ _ _

theorem At.offset {C : Prop} {buf : List Byte} {p q : P} (h : At C buf p q) :
    Reach C (buf.take (q.byte - p.byte)) p q := by
  obtain ⟨k, hk, hr⟩ := h
  have hb := hr.byte
  rw [List.length_take, Nat.min_eq_left hk] at hb
  have : q.byte - p.byte = k := by omega
  rw [this]; exact hr

theorem erase_gen (adv : List Byte → Nat) : ∀ (fuel : Nat) (buf : List Byte) (p : P) (d pos : Nat), p.byte = d + pos →
    (scanFromP adv fuel buf p).map (fun t => (t.ty, t.bytes, t.start.byte)) =
      (scanFrom adv fuel buf pos).map (fun t => (t.ty, t.bytes, d + t.start)) := by
  intro fuel
  induction fuel with
  | zero => intro buf p d pos h; simp [scanFromP, scanFrom, h]
  | succ fuel ih =>
    intro buf p d pos h
    obtain ⟨hs1, hs2⟩ := skip_spec False buf p (fun c => c.elim)
    have hb := hs2.byte
    rw [scanFromP_succ, scanFrom_succ, hs1]
    generalize (skipWhitespaceP buf p).2 = p1 at hb ⊢
    generalize (buf.takeWhile isWs).length = ws at hb ⊢
    have hp1 : p1.byte = d + (pos + ws) := by omega
    cases buf.dropWhile isWs with
    | nil => simp only [List.map_cons, List.map_nil, hp1]
    | cons b rest =>
      dsimp only [S1]
      cases hx : lex1 adv b rest with
      | some tn =>
        dsimp only
        rw [List.map_cons, List.map_cons, ih _ _ d (pos + ws + tn.2) (by rw [(tokEnd_spec hx p1).1]; omega), hp1]
      | none => simp only [List.map_cons, List.map_nil, step1, hp1, Nat.add_assoc]

/-- the three claims of `jscan_invalid_eof` (`Props/C14.lean`), of any token list -/
structure Shape (l : List PTok) : Prop where
  inv : ∀ pre t rest, l = pre ++ t :: rest → t.ty = .invalid →
    t.bytes.length = 1 ∧ t.stop = step1 t.start ∧ rest = [⟨.eof, [], t.stop, t.stop⟩]
  eof : ∀ t ∈ l, t.ty = .eof → t.bytes = [] ∧ t.stop = t.start
  last : l.getLast?.map (·.ty) = some .eof

/-- a property of all splittings `pre ++ t :: rest` of a list, element by element -/
theorem forall_split_cons {α : Type} {Q : α → List α → Prop} {x : α} {l : List α} (hx : Q x l)
    (hl : ∀ pre t rest, l = pre ++ t :: rest → Q t rest) : ∀ pre t rest, x :: l = pre ++ t :: rest → Q t rest
  | [], _, _, e => by cases e; exact hx
  | _ :: pre, t, rest, e => by cases e; exact hl pre t rest rfl

theorem Shape.eof1 (p : P) : Shape [⟨.eof, [], p, p⟩] :=
  ⟨forall_split_cons (fun h => by cases h) (fun pre _ _ e => by cases pre <;> cases e),
   List.forall_mem_cons.mpr ⟨fun _ => ⟨rfl, rfl⟩, fun _ h => by cases h⟩, rfl⟩

theorem Shape.cons {tok : PTok} {l : List PTok} (h1 : tok.ty ≠ .invalid) (h2 : tok.ty ≠ .eof) (hl : Shape l) :
    Shape (tok :: l) := by
  refine ⟨forall_split_cons (fun ht => absurd ht h1) hl.inv,
    List.forall_mem_cons.mpr ⟨fun he => absurd he h2, hl.eof⟩, ?_⟩
  have := hl.last
  cases l with
  | nil => cases this
  | cons a l => rw [List.getLast?_cons_cons]; exact this

theorem Shape.invalid (b : Byte) (p : P) :
    Shape [⟨.invalid, [b], p, step1 p⟩, ⟨.eof, [], step1 p, step1 p⟩] :=
  ⟨forall_split_cons (fun _ => ⟨rfl, rfl, rfl⟩) (Shape.eof1 (step1 p)).inv,
   List.forall_mem_cons.mpr ⟨nofun, (Shape.eof1 (step1 p)).eof⟩, rfl⟩

theorem scanFromP_shape (adv : List Byte → Nat) : ∀ (fuel : Nat) (buf : List Byte) (p : P),
    Shape (scanFromP adv fuel buf p) := by
  intro fuel
  induction fuel with
  | zero => intro buf p; exact Shape.eof1 p
  | succ fuel ih =>
    intro buf p
    rw [scanFromP_succ]
    cases (skipWhitespaceP buf p).1 with
    | nil => exact Shape.eof1 _
    | cons b rest =>
      dsimp only
      cases hx : lex1 adv b rest with
      | some tn => exact Shape.cons (lex1_ty hx).1 (lex1_ty hx).2 (ih _ _)
      | none => exact Shape.invalid _ _

end HclModel.Json.Proofs
