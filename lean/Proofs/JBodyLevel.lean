import Proofs.JBodyFlat
/-!
C03, one level: what a well-formed schema tree (`STree.wf`) and admissibility (`admBody`) give for each
property of a layout and for each block it writes.
-/
namespace HclModel.JBody.Proofs
open HclModel HclModel.Body HclModel.Body.Proofs

theorem stWfAll_mem {blocks : List (BlockSchema × STree)} (h : stWfAll blocks = true)
    {p : BlockSchema × STree} (hp : p ∈ blocks) : p.1.type ≠ "//" ∧ p.2.wf = true := by
  induction blocks with
  | nil => cases hp
  | cons q rest ih =>
    obtain ⟨bs, c⟩ := q
    simp only [stWfAll, Bool.and_eq_true, bne_iff_ne, ne_eq] at h
    rcases List.mem_cons.1 hp with e | hm
    · subst e; exact ⟨h.1.1, h.1.2⟩
    · exact ih h.2 hm

theorem wf_nodup {st : STree} (h : st.wf = true) : st.schema.nodup := by
  cases st with
  | mk attrs blocks =>
    simp only [STree.wf, Bool.and_eq_true] at h
    refine ⟨nodup_map_of_eraseDups_length _ _ h.1.1.1, ?_⟩
    have := nodup_map_of_eraseDups_length (fun (p : BlockSchema × STree) => p.1.type) blocks h.1.1.2
    show (List.map (·.type) (blocks.map (·.1))).Nodup
    rw [List.map_map]
    exact this

theorem wf_comment_attr {st : STree} (h : st.wf = true) : st.schema.attrs.any (·.name == "//") = false := by
  cases st with
  | mk attrs blocks =>
    simp only [STree.wf, Bool.and_eq_true, Bool.not_eq_true'] at h
    exact h.1.2

theorem wf_comment_block {st : STree} (h : st.wf = true) : wanted st.schema "//" = none := by
  cases st with
  | mk attrs blocks =>
    simp only [STree.wf, Bool.and_eq_true] at h
    rw [wanted_eq_none_iff]
    intro bs hbs
    simp only [STree.schema, List.mem_map] at hbs
    obtain ⟨p, hp, rfl⟩ := hbs
    exact (stWfAll_mem h.2 hp).1

theorem wf_child {st : STree} (h : st.wf = true) {t : String} {bs : BlockSchema}
    (hw : wanted st.schema t = some bs) :
    ∃ cst, st.child t = some cst ∧ cst.wf = true ∧ st.schema.blocks.find? (·.type == t) = some bs := by
  have hf := wanted_eq_find? _ t (wf_nodup h).2
  rw [hw] at hf
  cases st with
  | mk attrs blocks =>
    simp only [STree.wf, Bool.and_eq_true] at h
    simp only [STree.schema, List.find?_map] at hf
    cases hb : blocks.find? (fun p => p.1.type == t) with
    | none =>
      have : List.find? ((fun x => x.type == t) ∘ fun x => x.1) blocks = none := hb
      rw [this] at hf; cases hf
    | some p =>
      have hm := List.mem_of_find?_eq_some hb
      refine ⟨p.2, ?_, (stWfAll_mem h.2 hm).2, ?_⟩
      · simp [STree.child, hb]
      · simp only [STree.schema, List.find?_map]
        exact hf.symm

theorem child_none {st : STree} {t : String} (hw : wanted st.schema t = none) : st.child t = none := by
  rw [wanted_eq_none_iff] at hw
  cases st with
  | mk attrs blocks =>
    simp only [STree.child, Option.map_eq_none_iff, List.find?_eq_none, beq_iff_eq]
    intro p hp e
    exact hw p.1 (by simp only [STree.schema, List.mem_map]; exact ⟨p, hp, rfl⟩) e

/-- a block-type property the schema wants is written with the label levels the schema says -/
theorem adm_block {st : STree} (h : st.wf = true) {t : String} {u : UnderL} {bs : BlockSchema}
    (hw : wanted st.schema t = some bs)
    (ha : (match st.schema.blocks.find? (·.type == t), st.child t with
           | some bs, some cst => admUnder cst bs.labelCount u
           | _, _ => true) = true) :
    ∃ cst, st.child t = some cst ∧ cst.wf = true ∧ admUnder cst bs.labelCount u = true := by
  obtain ⟨cst, hc, hwf, hf⟩ := wf_child h hw
  rw [hf, hc] at ha
  exact ⟨cst, hc, hwf, ha⟩

theorem admBodies_mem {cst : STree} {bodies : List BodyL} (h : admBodies cst bodies = true)
    {b : BodyL} (hb : b ∈ bodies) : admBody cst b = true := by
  induction bodies with
  | nil => cases hb
  | cons x rest ih =>
    simp only [admBodies, Bool.and_eq_true] at h
    rcases List.mem_cons.1 hb with e | hm
    · subst e; exact h.1
    · exact ih h.2 hm

/-- a block written under a block type name with `k` labels left gets `k` more labels and has an admissible body -/
theorem adm_flatUnder (cst : STree) (t : String) : ∀ (k : Nat) (labels : List String) (u : UnderL),
    admUnder cst k u = true → ∀ fb ∈ flatUnder t labels u,
      fb.2.1.length = labels.length + k ∧ admBody cst fb.2.2 = true
  | 0, labels, u, h => by
    cases u with
    | none => simp [flatUnder]
    | one props =>
      simp only [flatUnder, List.mem_singleton]
      rintro fb rfl
      exact ⟨rfl, h⟩
    | many bodies =>
      simp only [flatUnder, List.mem_map]
      rintro fb ⟨b, hb, rfl⟩
      exact ⟨rfl, admBodies_mem h hb⟩
    | labelsObj _ => cases h
    | labelsArr _ => cases h
  | k+1, labels, u, h => by
    rw [admUnder_succ, Bool.and_eq_true, List.all_eq_true] at h
    rw [flatUnder_level h.1]
    intro fb hfb
    obtain ⟨p, hp, hfb⟩ := List.mem_flatMap.1 hfb
    obtain ⟨hlen, hadm⟩ := adm_flatUnder cst t k _ p.2 (h.2 p hp) fb hfb
    exact ⟨by rw [hlen, List.length_append, List.length_singleton, Nat.add_assoc, Nat.add_comm 1 k], hadm⟩

theorem mem_flatBlocks {ps : List PropL} {fb : FBlock} :
    fb ∈ flatBlocks ps ↔ ∃ t u, PropL.blocks t u ∈ ps ∧ fb ∈ flatUnder t [] u := by
  rw [flatBlocks, List.mem_flatMap]
  constructor
  · rintro ⟨p, hm, hf⟩
    cases p with
    | blocks t u => exact ⟨t, u, hm, hf⟩
    | comment v => cases hf
    | attr n v => cases hf
  · rintro ⟨t, u, hm, hf⟩; exact ⟨_, hm, hf⟩

theorem mem_denoteAttrs {ps : List PropL} {p : String × JV} :
    p ∈ denoteAttrs ps ↔ PropL.attr p.1 p.2 ∈ ps := by
  rw [denoteAttrs_flatMap, List.mem_flatMap]
  constructor
  · rintro ⟨q, hm, hq⟩
    cases q with
    | attr n v => cases List.mem_singleton.1 hq; exact hm
    | comment v => cases hq
    | blocks t u => cases hq
  · intro hm; exact ⟨_, hm, List.mem_singleton.2 rfl⟩

/-- admissibility, property by property -/
structure PropAdm (st : STree) (p : PropL) : Prop where
  attr : ∀ n v, p = .attr n v →
    n ≠ "//" ∧ st.schema.blocks.any (·.type == n) = false ∧ uniqueKeys v = true
  blocks : ∀ t u, p = .blocks t u →
    t ≠ "//" ∧ st.schema.attrs.any (·.name == t) = false ∧
      (match st.schema.blocks.find? (·.type == t), st.child t with
       | some bs, some cst => admUnder cst bs.labelCount u
       | _, _ => true) = true

theorem admProps_iff (st : STree) (ps : List PropL) :
    admProps st ps = true ↔ ∀ p ∈ ps, PropAdm st p := by
  induction ps with
  | nil => simp [admProps]
  | cons p rest ih =>
    simp only [List.forall_mem_cons, ← ih]
    cases p with
    | comment v =>
      simp only [admProps, iff_and_self]
      intro _
      exact ⟨fun _ _ e => (by cases e), fun _ _ e => (by cases e)⟩
    | attr n v =>
      simp only [admProps, Bool.and_eq_true, bne_iff_ne, ne_eq, Bool.not_eq_true']
      constructor
      · rintro ⟨⟨⟨h1, h2⟩, h3⟩, h4⟩
        exact ⟨⟨fun _ _ e => (by cases e; exact ⟨h1, h2, h3⟩), fun _ _ e => (by cases e)⟩, h4⟩
      · rintro ⟨⟨h, _⟩, h4⟩
        obtain ⟨h1, h2, h3⟩ := h n v rfl
        exact ⟨⟨⟨h1, h2⟩, h3⟩, h4⟩
    | blocks t u =>
      simp only [admProps, Bool.and_eq_true, bne_iff_ne, ne_eq, Bool.not_eq_true']
      constructor
      · rintro ⟨⟨⟨h1, h2⟩, h3⟩, h4⟩
        exact ⟨⟨fun _ _ e => (by cases e), fun _ _ e => (by cases e; exact ⟨h1, h2, h3⟩)⟩, h4⟩
      · rintro ⟨⟨_, h⟩, h4⟩
        obtain ⟨h1, h2, h3⟩ := h t u rfl
        exact ⟨⟨⟨h1, h2⟩, h3⟩, h4⟩

theorem adm_flatBlocks {st : STree} (hst : st.wf = true) {ps : List PropL} (hadm : admProps st ps = true)
    {fb : FBlock} (hfb : fb ∈ flatBlocks ps) {bs : BlockSchema} (hw : wanted st.schema fb.1 = some bs) :
    ∃ cst, st.child fb.1 = some cst ∧ cst.wf = true ∧ fb.2.1.length = bs.labelCount ∧
      admBody cst fb.2.2 = true := by
  obtain ⟨t, u, hm, hf⟩ := mem_flatBlocks.1 hfb
  have hp := ((admProps_iff st ps).1 hadm _ hm).blocks t u rfl
  have ht : fb.1 = t := flatUnder_type t [] u fb hf
  rw [ht] at hw ⊢
  obtain ⟨cst, hc, hwf, hu⟩ := adm_block hst hw hp.2.2
  have := adm_flatUnder cst t bs.labelCount [] u hu fb hf
  exact ⟨cst, hc, hwf, by simpa using this.1, this.2⟩

end HclModel.JBody.Proofs
