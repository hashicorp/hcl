import HclModel.Json.Grammar
/-!
String tokens for C13: `unescape` and `parseStringBytes` against the grammar's `Chars` and `IsString`, and
the shape of a string body as the lax scanner sees it (`okBody`).
-/
namespace HclModel.Json.Proofs
open HclModel.Json

/-- the string bodies that `scanStringBody` reads through to their closing quote: no control byte and no
    unescaped quote; `esc` says that the byte before was a backslash that escapes this one -/
def okBody : List Byte → Bool → Prop
  | [], esc => esc = false
  | b :: s, esc =>
    if b = 92 then okBody s (!esc)
    else if b = 34 then esc = true ∧ okBody s false
    else 32 ≤ b ∧ okBody s false

theorem hexDigit?_plain {b : Byte} {v : Nat} (h : hexDigit? b = some v) : 32 ≤ b ∧ b ≠ 34 ∧ b ≠ 92 := by
  refine Decidable.by_contra fun hn => ?_
  have : isDigit b = false ∧ ¬ (97 ≤ b ∧ b ≤ 102) ∧ ¬ (65 ≤ b ∧ b ≤ 70) := by
    -- `omega` does not look through the abbreviation `Byte`
    simp only [Byte, isDigit, Bool.and_eq_false_imp, decide_eq_true_eq, decide_eq_false_iff_not] at hn ⊢
    omega
  simp [hexDigit?, this] at h

theorem hex4?_cons4 {a b c d : Byte} {rest r' : List Byte} {cp : Nat} :
    hex4? (a :: b :: c :: d :: rest) = some (cp, r') ↔
      ∃ va vb vc vd, hexDigit? a = some va ∧ hexDigit? b = some vb ∧ hexDigit? c = some vc ∧
        hexDigit? d = some vd ∧ ((va * 16 + vb) * 16 + vc) * 16 + vd = cp ∧ rest = r' := by
  simp [hex4?, bind, Option.bind_eq_some_iff]

theorem hex4?_split {r r' : List Byte} {cp : Nat} (h : hex4? r = some (cp, r')) :
    ∃ hs, r = hs ++ r' ∧ hs.length = 4 ∧ hex4? hs = some (cp, []) := by
  match r, h with
  | a :: b :: c :: d :: rest, h =>
    rw [hex4?_cons4] at h
    obtain ⟨va, vb, vc, vd, ha, hb, hc, hd, hcp, rfl⟩ := h
    exact ⟨[a, b, c, d], rfl, rfl, hex4?_cons4.mpr ⟨va, vb, vc, vd, ha, hb, hc, hd, hcp, rfl⟩⟩

theorem hex4?_append {hs r' : List Byte} {cp : Nat} (hl : hs.length = 4)
    (h : hex4? hs = some (cp, [])) : hex4? (hs ++ r') = some (cp, r') := by
  match hs, hl with
  | [a, b, c, d], _ =>
    rw [hex4?_cons4] at h
    obtain ⟨va, vb, vc, vd, ha, hb, hc, hd, hcp, _⟩ := h
    exact hex4?_cons4.mpr ⟨va, vb, vc, vd, ha, hb, hc, hd, hcp, rfl⟩

theorem hex4?_bytes {hs : List Byte} {cp : Nat} (hl : hs.length = 4)
    (h : hex4? hs = some (cp, [])) : ∀ b ∈ hs, 32 ≤ b ∧ b ≠ 34 ∧ b ≠ 92 := by
  match hs, hl with
  | [a, b, c, d], _ =>
    rw [hex4?_cons4] at h
    obtain ⟨va, vb, vc, vd, ha, hb, hc, hd, _, _⟩ := h
    intro x hx
    simp only [List.mem_cons, List.not_mem_nil, or_false] at hx
    rcases hx with rfl | rfl | rfl | rfl
    · exact hexDigit?_plain ha
    · exact hexDigit?_plain hb
    · exact hexDigit?_plain hc
    · exact hexDigit?_plain hd

theorem simpleEscape_dom {e c : Byte} (h : simpleEscape e = some c) :
    e = 34 ∨ e = 92 ∨ e = 47 ∨ e = 98 ∨ e = 102 ∨ e = 110 ∨ e = 114 ∨ e = 116 := by
  refine Decidable.by_contra fun hn => ?_
  simp only [not_or] at hn
  simp [simpleEscape, hn] at h

theorem simpleEscape_plain {e c : Byte} (h : simpleEscape e = some c) : 32 ≤ e ∧ e ≠ 117 := by
  rcases simpleEscape_dom h with rfl | rfl | rfl | rfl | rfl | rfl | rfl | rfl <;> decide

theorem unescape_zero (s : List Byte) : unescape 0 s = none := by
  simp [unescape]

theorem unescape_nil (f : Nat) : unescape (f + 1) [] = some [] := by
  simp [unescape]

theorem unescape_raw {f : Nat} {b : Byte} {rest : List Byte} (hb : b ≠ 92) :
    unescape (f + 1) (b :: rest) =
      if b = 34 ∨ b < 32 then none else (b :: ·) <$> unescape f rest := by
  simp [unescape, hb]

theorem unescape_bs_nil (f : Nat) : unescape (f + 1) [92] = none := by
  simp [unescape]

theorem unescape_esc {f : Nat} {e : Byte} {r : List Byte} (he : e ≠ 117) :
    unescape (f + 1) (92 :: e :: r) =
      match simpleEscape e with
      | some c => (c :: ·) <$> unescape f r
      | none => none := by
  rw [unescape]
  · rw [if_pos rfl]
    cases simpleEscape e <;> rfl
  · exact he

theorem unescape_u_none {f : Nat} {r : List Byte} (hx : hex4? r = none) :
    unescape (f + 1) (92 :: 117 :: r) = none := by
  rw [unescape]
  simp [hx]

theorem unescape_u_plain {f : Nat} {r r' : List Byte} {cp : Nat} (hx : hex4? r = some (cp, r'))
    (hhi : ¬ isHighSurr cp) (hlo : ¬ isLowSurr cp) :
    unescape (f + 1) (92 :: 117 :: r) = (utf8Encode cp ++ ·) <$> unescape f r' := by
  unfold isHighSurr at hhi
  unfold isLowSurr at hlo
  rw [unescape]
  simp [hx, hhi, hlo]

theorem unescape_u_loneLow {f : Nat} {r r' : List Byte} {cp : Nat} (hx : hex4? r = some (cp, r'))
    (hlo : isLowSurr cp) :
    unescape (f + 1) (92 :: 117 :: r) = (replacementChar ++ ·) <$> unescape f r' := by
  unfold isLowSurr at hlo
  have hhi : ¬ (0xD800 ≤ cp ∧ cp < 0xDC00) := by omega
  rw [unescape]
  simp [hx, hhi, hlo]

theorem unescape_u_pair {f : Nat} {r r₂ r₃ : List Byte} {hi lo : Nat}
    (hx : hex4? r = some (hi, 92 :: 117 :: r₂)) (hhi : isHighSurr hi)
    (hx' : hex4? r₂ = some (lo, r₃)) (hlo : isLowSurr lo) :
    unescape (f + 1) (92 :: 117 :: r) =
      (utf8Encode (0x10000 + (hi - 0xD800) * 1024 + (lo - 0xDC00)) ++ ·) <$> unescape f r₃ := by
  unfold isHighSurr at hhi
  unfold isLowSurr at hlo
  rw [unescape]
  simp [hx, hx', hhi, hlo]

theorem unescape_u_loneHigh {f : Nat} {r r' : List Byte} {cp : Nat} (hx : hex4? r = some (cp, r'))
    (hhi : isHighSurr cp) (hns : ¬ StartsWithLowEscape r') :
    unescape (f + 1) (92 :: 117 :: r) = (replacementChar ++ ·) <$> unescape f r' := by
  unfold isHighSurr at hhi
  rw [unescape]
  simp only [hx, hhi, if_true, and_self]
  split
  · rename_i r₂
    split
    · rename_i lo r₃ hx'
      split
      · rename_i hlo
        obtain ⟨ls, rfl, hll, hlh⟩ := hex4?_split hx'
        exact absurd ⟨ls, r₃, lo, rfl, hll, hlh, hlo⟩ hns
      · rfl
    · rfl
  · rfl

theorem unescape_sound : ∀ (fuel : Nat) (s d : List Byte), unescape fuel s = some d → Chars s d := by
  intro fuel
  induction fuel with
  | zero => intro s d h; simp [unescape_zero] at h
  | succ f ih =>
    intro s d h
    match s with
    | [] =>
      rw [unescape_nil] at h
      cases h
      exact Chars.nil
    | b :: rest =>
      by_cases hb : b = 92
      · subst hb
        match rest with
        | [] => simp [unescape_bs_nil] at h
        | e :: r =>
          by_cases he : e = 117
          · subst he
            cases hx : hex4? r with
            | none => simp [unescape_u_none hx] at h
            | some p =>
              obtain ⟨cp, r'⟩ := p
              obtain ⟨hs, rfl, hl, hh⟩ := hex4?_split hx
              by_cases hhi : isHighSurr cp
              · by_cases hsl : StartsWithLowEscape r'
                · obtain ⟨ls, r₃, lo, rfl, hll, hlh, hlo⟩ := hsl
                  rw [unescape_u_pair hx hhi (hex4?_append hll hlh) hlo] at h
                  obtain ⟨d', hd', rfl⟩ := Option.map_eq_some_iff.1 h
                  simpa only [List.cons_append, List.append_assoc] using
                    Chars.pair hs ls cp lo r₃ d' hl hll hh hlh hhi hlo (ih _ _ hd')
                · rw [unescape_u_loneHigh hx hhi hsl] at h
                  obtain ⟨d', hd', rfl⟩ := Option.map_eq_some_iff.1 h
                  exact Chars.loneHigh hs cp r' d' hl hh hhi hsl (ih _ _ hd')
              · by_cases hlo : isLowSurr cp
                · rw [unescape_u_loneLow hx hlo] at h
                  obtain ⟨d', hd', rfl⟩ := Option.map_eq_some_iff.1 h
                  exact Chars.loneLow hs cp r' d' hl hh hlo (ih _ _ hd')
                · rw [unescape_u_plain hx hhi hlo] at h
                  obtain ⟨d', hd', rfl⟩ := Option.map_eq_some_iff.1 h
                  exact Chars.uni hs cp r' d' hl hh hhi hlo (ih _ _ hd')
          · rw [unescape_esc he] at h
            cases hse : simpleEscape e with
            | none => simp [hse] at h
            | some c =>
              rw [hse] at h
              obtain ⟨d', hd', rfl⟩ := Option.map_eq_some_iff.1 h
              exact Chars.esc _ _ _ _ hse (ih _ _ hd')
      · rw [unescape_raw hb] at h
        split at h
        · cases h
        · rename_i hc
          obtain ⟨d', hd', rfl⟩ := Option.map_eq_some_iff.1 h
          exact Chars.raw _ _ _ (Nat.le_of_not_lt fun h => hc (.inr h)) (fun h => hc (.inl h)) hb (ih _ _ hd')

theorem unescape_complete {s d : List Byte} (h : Chars s d) :
    ∀ fuel, s.length < fuel → unescape fuel s = some d := by
  induction h with
  | nil => exact fun | f + 1, _ => unescape_nil f
  | raw b s d h1 h2 h3 _ ih =>
    intro | f + 1, hf => ?_
    rw [unescape_raw h3, if_neg (not_or.mpr ⟨h2, Nat.not_lt.mpr h1⟩), ih f (by simpa using hf)]
    rfl
  | esc e c s d h1 _ ih =>
    intro | f + 1, hf => ?_
    rw [unescape_esc (simpleEscape_plain h1).2, h1]
    simp only
    rw [ih f (by simp at hf; omega)]
    rfl
  | uni hs cp s d hl hh h1 h2 _ ih =>
    intro | f + 1, hf => ?_
    simp only [List.cons_append] at hf ⊢
    rw [unescape_u_plain (hex4?_append hl hh) h1 h2, ih f (by simp at hf; omega)]
    rfl
  | pair hs ls hi lo s d hl ll hh lh h1 h2 _ ih =>
    intro | f + 1, hf => ?_
    simp only [List.cons_append, List.append_assoc] at hf ⊢
    rw [unescape_u_pair (hex4?_append hl hh) h1 (hex4?_append ll lh) h2,
      ih f (by simp at hf; omega)]
    rfl
  | loneHigh hs cp s d hl hh h1 h2 _ ih =>
    intro | f + 1, hf => ?_
    simp only [List.cons_append] at hf ⊢
    rw [unescape_u_loneHigh (hex4?_append hl hh) h1 h2, ih f (by simp at hf; omega)]
    rfl
  | loneLow hs cp s d hl hh h1 _ ih =>
    intro | f + 1, hf => ?_
    simp only [List.cons_append] at hf ⊢
    rw [unescape_u_loneLow (hex4?_append hl hh) h1, ih f (by simp at hf; omega)]
    rfl

theorem mem_takeWhile_imp {p : Byte → Bool} {l : List Byte} {b : Byte} (h : b ∈ l.takeWhile p) : p b = true :=
  List.all_eq_true.mp List.all_takeWhile b h

/-- `r` is empty or begins outside the byte class `p`: where a run of `p` bytes ends -/
def NoHead (p : Byte → Bool) (r : List Byte) : Prop := ∀ b t, r = b :: t → p b = false

theorem NoHead.nil {p : Byte → Bool} : NoHead p [] := by
  intro b t h; cases h

theorem NoHead.cons {p : Byte → Bool} {b : Byte} (t : List Byte) (h : p b = false) : NoHead p (b :: t) := by
  intro b' t' h'; cases h'; exact h

theorem NoHead.dropWhile (p : Byte → Bool) (bs : List Byte) : NoHead p (bs.dropWhile p) := by
  induction bs with
  | nil => exact .nil
  | cons a l ih =>
    rw [List.dropWhile_cons]
    split
    · exact ih
    · next h => exact .cons l (by simpa using h)

theorem span_run {p : Byte → Bool} {v r : List Byte} (hv : ∀ x ∈ v, p x = true) (hr : NoHead p r) :
    (v ++ r).takeWhile p = v ∧ (v ++ r).dropWhile p = r := by
  rw [List.takeWhile_append_of_pos hv, List.dropWhile_append_of_pos hv]
  cases r with
  | nil => simp
  | cons b t => simp [hr b t rfl]

theorem dropTrailingWs_spec (bs : List Byte) : ∃ w, bs = dropTrailingWs bs ++ w ∧ AllWs w := by
  refine ⟨(bs.reverse.takeWhile isWs).reverse, ?_, fun b hb => mem_takeWhile_imp (List.mem_reverse.mp hb)⟩
  unfold dropTrailingWs
  rw [← List.reverse_append, List.takeWhile_append_dropWhile, List.reverse_reverse]

theorem dropTrailingWs_concat (xs : List Byte) {c : Byte} (hc : isWs c = false) :
    dropTrailingWs (xs ++ [c]) = xs ++ [c] := by
  unfold dropTrailingWs
  simp [hc]

theorem parseStringBytes_sound {bs d : List Byte} (h : parseStringBytes bs = some d) :
    IsString (dropTrailingWs bs) d := by
  unfold parseStringBytes at h
  split at h
  · rename_i rest heq
    rw [heq]
    split at h
    · rename_i hl
      obtain ⟨ys, rfl⟩ := List.getLast?_eq_some_iff.mp hl
      rw [List.dropLast_concat] at h
      exact IsString.mk _ _ (unescape_sound _ _ _ h)
    · cases h
  · cases h

theorem parseStringBytes_complete {bs d : List Byte} (h : IsString bs d) :
    parseStringBytes bs = some d := by
  cases h with
  | mk s d hc =>
    have hd : dropTrailingWs (34 :: s ++ [34]) = 34 :: (s ++ [34]) := dropTrailingWs_concat _ (by decide)
    unfold parseStringBytes
    rw [hd]
    simp only [List.getLast?_concat, List.dropLast_concat]
    exact unescape_complete hc _ (by simp only [List.length_append, List.length_singleton]; omega)

theorem okBody_append {hs s : List Byte} (hh : ∀ b ∈ hs, 32 ≤ b ∧ b ≠ 34 ∧ b ≠ 92)
    (h : okBody s false) : okBody (hs ++ s) false := by
  induction hs with
  | nil => exact h
  | cons a t ih =>
    have ha := hh a (by simp)
    simp only [List.cons_append, okBody, if_neg ha.2.2, if_neg ha.2.1]
    exact ⟨ha.1, ih (fun b hb => hh b (by simp [hb]))⟩

theorem okBody_esc {e : Byte} {s : List Byte} (he : 32 ≤ e) (h : okBody s false) :
    okBody (92 :: e :: s) false := by
  simp only [okBody, if_true, Bool.not_false]
  split
  · exact h
  · split
    · exact ⟨trivial, h⟩
    · exact ⟨he, h⟩

theorem okBody_u {hs s : List Byte} {cp : Nat} (hl : hs.length = 4) (hh : IsHex4 hs cp)
    (h : okBody s false) : okBody (92 :: 117 :: (hs ++ s)) false :=
  okBody_esc (by decide) (okBody_append (hex4?_bytes hl hh) h)

theorem Chars.okBody {s d : List Byte} (h : Chars s d) : okBody s false := by
  induction h with
  | nil => rfl
  | raw b s d h1 h2 h3 _ ih => simp only [Proofs.okBody, if_neg h3, if_neg h2]; exact ⟨h1, ih⟩
  | esc e c s d h1 _ ih => exact okBody_esc (simpleEscape_plain h1).1 ih
  | uni hs cp s d hl hh _ _ _ ih => exact okBody_u hl hh ih
  | pair hs ls hi lo s d hl ll hh lh _ _ _ ih =>
    simp only [List.cons_append, List.append_assoc]
    exact okBody_u hl hh (okBody_u ll lh ih)
  | loneHigh hs cp s d hl hh _ _ _ ih => exact okBody_u hl hh ih
  | loneLow hs cp s d hl hh _ _ ih => exact okBody_u hl hh ih

end HclModel.Json.Proofs
