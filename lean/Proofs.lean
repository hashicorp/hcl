import Proofs.Format
import Proofs.Json
import Proofs.Pos
import Proofs.StringLit
import Proofs.GenValue
import Proofs.Template
import Proofs.Traversal
import Proofs.OpTable
import Proofs.FreeVars
import Proofs.BodyNative
import Proofs.Structure
import Proofs.SymbolTable
import Proofs.Nodes
import Proofs.TypeExpr
import Proofs.Static
import Proofs.Loader
import Proofs.Decode
import Proofs.Marks
import Proofs.Unknowns
import Proofs.JBodyLit
import Proofs.JBodyFlat
import Proofs.JBodyLevel
import Proofs.JBodyContent
import Proofs.JBodyAgree
import Proofs.JBodyErr
import Proofs.DynBasic
import Proofs.DynLevel
import Proofs.DynEq
import Proofs.DynVars
import Proofs.DynTwo
import Proofs.GohclQSort
import Proofs.GohclAttr
import Proofs.GohclSchema
import Proofs.GohclEqns
import Proofs.GohclStruct
import Proofs.GohclCex
import Proofs.Taint
import Proofs.JsonScanPos
import Proofs.BodyMerged
import Proofs.RangeScan
import Proofs.DynMarks
import Proofs.TextWriter
import Proofs.Skel
