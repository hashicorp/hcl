import Proofs.Taint
import Proofs.TextWriter
/-!
# C19 — diagnostics never reveal the content of marked values (expression evaluation)

`eval` is the evaluator model (`HclModel/Expr/Eval.lean`), tied to the Go evaluator by the `EVAL`
correspondence; a diagnostic of the model is `⟨site, frags⟩` where `frags` are the values whose content the
message echoes.  The `EVAL` answer carries the fragments (with their taint) and `fclean [] e`, and the `FRAGS`
correspondence of the harness (`props/c19/corr.go`) checks on generated `for` expressions that the Detail of
the real "Duplicate object key" diagnostic names the key iff the model's diagnostic has that key as a fragment,
that an echoed string which occurs in the scope only inside marked values is a tainted fragment, and that
neither happens when the side condition of `taint_partial` holds.  Reading the Go code,
that diagnostic (`ForExpr.Value`) is the only place where expression evaluation puts run-time value content
into Summary / Detail, and it names the key only while none of the mark sets collected so far (collection,
`if` clause, key expressions of this and earlier iterations) is non-empty, which is the model's
`if st.marks.m then [] else [.str kf k]`.

## The ghost taint

Every value node carries, beside the mark `m`, a ghost flag `g` that the Go values do not have: "this content
entered the evaluation inside a marked value".  The wire format sets it at and below every marked node
(`valOfSexp`) and erases it (`valDump`); it never influences a value, a mark or a diagnostic's presence.
The evaluator model copies `g` wherever it copies or derives content, also where the mark is legitimately
removed: `Unmark` keeps it, the keys and elements handed to a `for` body keep it, operators / templates /
conditionals / function results join it from everything they look at.  Scopes:

* `ghostWF false v` (`HclModel/Expr/Rel.lean`): at and below a marked node everything is tainted;
* `tw false v` (`HclModel/Expr/Taint.lean`, with the other definitions used here): every tainted node is
  marked or below a marked node ("nothing tainted is exposed");
* `exactEnv ρ`: both, for every binding — `g` is exactly "at or below a mark";
  `twEnv ρ`: the second alone (what the theorems need).

`fragsClean ds`: every fragment of every diagnostic in `ds` is `untainted` (no `g` at any node).

## What is proved, and what is not

`TaintFull` (every expression, every exact scope) is **false** for the Go code and for the model:
`ForExpr` / splat bodies see the elements and keys of a collection that is marked at the top *without* the
mark, so a "Duplicate object key" of a nested `for` with an unmarked collection echoes them
(`taint_full_false`, `taint_full_false_key`; recorded finding of the direct oracle, key suffix
`via-unmarked-scope-variable`).

`taint_partial` holds for every configuration `C` (the Go one and the repaired ones) under the decidable
side condition `fclean [] e`, a static analysis (`HclModel/Expr/Taint.lean`, with `vclean`):
it tracks the set `L` of variables that may hold exposed taint — the iteration variables of the enclosing
`for` / splat bodies, except those of a `for` whose collection is a tuple constructor or literal (never marked
at the top) that itself exposes nothing (`bodyVars`) — and asks of every non-grouping object `for` that

* its key expression does not depend on a variable in `L` nor on its own iteration variables
  (`vclean (iter ++ L) key`), or
* its collection does not depend on a variable in `L` and its key expression depends on no variable in `L`
  other than its own iteration variables (then the collection is marked, and the key is not echoed, or its
  elements expose nothing).

"Depends" is syntactic (free variables, through nested bodies); literals must not expose taint.
Excluded: exactly the shape of the counterexamples, a non-grouping object `for` inside a loop body whose key
(or whose collection, for keys built from its own iterators) mentions a variable of an enclosing loop.
`taint_simple` is the coarser syntactic corollary: literals free of flags, and no non-grouping object `for`
inside any `for` / splat body.  At top level (no enclosing loop) every expression passes:
`{for k, v in coll : key => val}` is covered whatever `coll`, `key`, `val` are, provided their own
sub-expressions pass.

Functions: `TaintFuncs F` — an implementation called with arguments that carry no taint at all does
not return exposed taint (any implementation returning flag-free values: `Proofs.taintFuncs_of_flagFree`;
the library of the wire protocol: `Proofs.taintFuncs_std`).  `callFunc` re-applies the join of all argument
flags to the result, as `function.Call` does with the marks.  Error messages of implementations are not
fragments (outside the guarantee).

`taint_value`: under `vclean [] e` the *value* of an expression exposes no taint either — whatever a
caller echoes of a result that it unmarks itself is outside this model.

## Mark-dropping sites (findings of C06) in terms of taint

* `obj[key]` with a marked key (`hcl.Index`, object case, `key.Unmark()`): the Go configuration drops the
  key's flags altogether, mark and ghost; the selected attribute is not tainted.  In the property's terms the
  attribute is content of the (unmarked) object, not of the marked key — *which* attribute was selected is
  an implicit flow that C19 does not speak about (`index_marked_key_untainted` below; with `keepKeyMarks` the
  result carries both flags of the key).  List / tuple / map indexing joins the key's flags.
* unknown operands (`-x`, `!x`, unknown index keys, `tjoin`, unknown `for` collections of dynamic type, …):
  a fresh unknown without flags — it has no content.
* conditionals: the result carries the join of the flags of condition and both branches (also `g`);
  diagnostics of the branch not taken are dropped or kept (`keepDropped`), either way they come from
  sub-evaluations.
* `for` / splat / call expansion: the collection is unmarked for iteration; elements and keys keep `g`.
  This is the one place where tainted content is exposed (to the body scope), hence the side condition.

Not modelled: fragments are *value* content only.  Type descriptions in messages (attribute names of a marked
object in "Inconsistent conditional result types" and in conversion errors) are not fragments of the model;
the direct oracle records those leaks (`leak:inconsistent-conditional-result-types-detail`,
`leak:incorrect-attribute-value-type-detail`).  Body decoding is outside the evaluator model.  The text
diagnostic writer, which prints the values of the variables referenced by `Expression` from `EvalContext`,
has its own model and theorems: last section of this file.
-/
namespace HclModel
open Proofs

/-- The property for expression evaluation, full strength: in a scope whose ghost taint is exactly "at or
    below a mark", no diagnostic of the Go configuration echoes tainted content.  **False.** -/
def TaintFull : Prop :=
  ∀ (F : Funcs), TaintFuncs F → ∀ (e : Expr) (ρ : Env), exactEnv ρ → litsFree e = true →
    fragsClean (eval { funcs := F } ρ e).2

private abbrev M : Fl := ⟨true, true⟩      -- marked (and therefore tainted)
private abbrev T : Fl := ⟨false, true⟩     -- below a mark: tainted, not marked itself
private abbrev N : Fl := {}

/-- `[for s in sec : {for k in [s, s] : k => 1}]` -/
def leakExpr : Expr :=
  .forTuple "" "s" (.var "sec")
    (.forObject "" "k" (.tuple [.var "s", .var "s"]) (.var "k") (.lit (.num N 1)) none false) none

/-- `sec` = a marked tuple holding one string -/
def leakEnv : Env := [("sec", .tuple M [.str T "hunter2"])]

theorem leakEnv_exact : exactEnv leakEnv := by
  intro p hp
  simp only [leakEnv, List.mem_singleton] at hp
  subst hp
  exact ⟨rfl, rfl⟩

/-- The element of a collection marked at the top reaches the body of a `for` without the mark; the
    nested `for` (unmarked collection, unmarked key) echoes it. -/
theorem taint_full_false : ¬ TaintFull := by
  intro h
  have h1 := h (fun _ => none) taintFuncs_empty leakExpr leakEnv leakEnv_exact rfl
  have hd : (eval { funcs := fun _ => none } leakEnv leakExpr).2 =
      [⟨"Duplicate object key", [.str T "hunter2"]⟩] := by rfl
  rw [hd] at h1
  have := h1 _ (List.mem_singleton.mpr rfl) _ (List.mem_singleton.mpr rfl)
  revert this
  decide

/-- `[for k, v in sec : {for x in [k, k] : x => 1}]` with `sec` a marked map: the same for a key. -/
theorem taint_full_false_key : ¬ TaintFull := by
  intro h
  have h1 := h (fun _ => none) taintFuncs_empty
    (.forTuple "k" "v" (.var "sec")
      (.forObject "" "x" (.tuple [.var "k", .var "k"]) (.var "x") (.lit (.num N 1)) none false) none)
    [("sec", .map M .num [("hunter2", .num T 1)])]
    (by intro p hp; simp only [List.mem_singleton] at hp; subst hp; exact ⟨rfl, rfl⟩) rfl
  have hd : (eval { funcs := fun _ => none } [("sec", .map M .num [("hunter2", .num T 1)])]
      (.forTuple "k" "v" (.var "sec")
        (.forObject "" "x" (.tuple [.var "k", .var "k"]) (.var "x") (.lit (.num N 1)) none false) none)).2 =
      [⟨"Duplicate object key", [.str T "hunter2"]⟩] := by rfl
  rw [hd] at h1
  have := h1 _ (List.mem_singleton.mpr rfl) _ (List.mem_singleton.mpr rfl)
  revert this
  decide

/-- **No diagnostic echoes tainted content**, for every configuration `C` (Go: `{ funcs := F }`), every scope
    in which nothing tainted is exposed and every expression that passes the analysis `fclean []`. -/
theorem taint_partial (C : Cx) (hF : TaintFuncs C.funcs) (e : Expr) (ρ : Env) (hρ : twEnv ρ)
    (he : fclean [] e = true) : fragsClean (eval C ρ e).2 :=
  Proofs.taint_partial C hF e ρ hρ he

/-- The Go configuration, scopes as they come over the wire. -/
theorem taint_partial_go (F : Funcs) (hF : TaintFuncs F) (e : Expr) (ρ : Env) (hρ : exactEnv ρ)
    (he : fclean [] e = true) : fragsClean (eval { funcs := F } ρ e).2 :=
  Proofs.taint_partial { funcs := F } hF e ρ (twEnv_of_exactEnv hρ) he

/-- The configuration of the `EVAL` correspondence (`goCx`, function library `stdFuncs`). -/
theorem taint_partial_wire (e : Expr) (ρ : Env) (hρ : twEnv ρ) (he : fclean [] e = true) :
    fragsClean (eval goCx ρ e).2 :=
  Proofs.taint_partial goCx taintFuncs_std e ρ hρ he

/-- The coarser syntactic condition `simple` in place of `fclean []`. -/
theorem taint_simple (C : Cx) (hF : TaintFuncs C.funcs) (e : Expr) (ρ : Env) (hρ : twEnv ρ)
    (he : simple false e = true) : fragsClean (eval C ρ e).2 :=
  Proofs.taint_simple C hF e ρ hρ he

/-- The value of an expression whose free variables and literals expose no taint exposes none. -/
theorem taint_value (C : Cx) (hF : TaintFuncs C.funcs) (e : Expr) (ρ : Env) (hρ : twEnv ρ)
    (he : vclean [] e = true) : tw false (eval C ρ e).1 = true :=
  Proofs.taint_value C hF e ρ hρ he

/-! The hypotheses are satisfiable on inputs that raise the diagnostic. -/

/-- `{for v in c : v => 1}` -/
def dupExpr : Expr := .forObject "" "v" (.var "c") (.var "v") (.lit (.num N 1)) none false

example : fclean [] dupExpr = true := rfl
example : simple false dupExpr = true := rfl

/-- a marked collection with a duplicate: the scope is exact, the diagnostic is there and has no fragment -/
example : exactEnv [("c", .tuple M [.str T "dup", .str T "dup"])] ∧
    (eval { funcs := fun _ => none } [("c", .tuple M [.str T "dup", .str T "dup"])] dupExpr).2 =
      [⟨"Duplicate object key", []⟩] :=
  ⟨by intro p hp; simp only [List.mem_singleton] at hp; subst hp; exact ⟨rfl, rfl⟩, rfl⟩

/-- the elements marked one by one: the same -/
example : exactEnv [("c", .tuple N [.str M "dup", .str M "dup"])] ∧
    (eval { funcs := fun _ => none } [("c", .tuple N [.str M "dup", .str M "dup"])] dupExpr).2 =
      [⟨"Duplicate object key", []⟩] :=
  ⟨by intro p hp; simp only [List.mem_singleton] at hp; subst hp; exact ⟨rfl, rfl⟩, rfl⟩

/-- an unmarked collection: the key is echoed, and it is untainted -/
example : exactEnv [("c", .tuple N [.str N "dup", .str N "dup"])] ∧
    (eval { funcs := fun _ => none } [("c", .tuple N [.str N "dup", .str N "dup"])] dupExpr).2 =
      [⟨"Duplicate object key", [.str N "dup"]⟩] :=
  ⟨by intro p hp; simp only [List.mem_singleton] at hp; subst hp; exact ⟨rfl, rfl⟩, rfl⟩

/-- a nested `for` that the analysis accepts although it sits in a loop body: its key does not depend on
    the outer iteration variable (`[for s in sec : {for k in ["a", "a"] : k => s}]`) -/
example : fclean [] (.forTuple "" "s" (.var "sec")
    (.forObject "" "k" (.tuple [.lit (.str N "a"), .lit (.str N "a")]) (.var "k") (.var "s") none false) none) = true :=
  rfl

/-- … and the counterexample is what it rejects -/
example : fclean [] leakExpr = false := rfl

/-- the same nested `for` under a loop over a tuple constructor is accepted (`bodyVars`): `[a, b]` is never
    marked at the top, so its elements keep their own marks (`[for s in [a, b] : {for k in [s, s] : k => 1}]`) -/
example : fclean [] (.forTuple "" "s" (.tuple [.var "a", .var "b"])
    (.forObject "" "k" (.tuple [.var "s", .var "s"]) (.var "k") (.lit (.num N 1)) none false) none) = true :=
  rfl

/-- … and there a marked element gives a diagnostic without fragment -/
example : (eval { funcs := fun _ => none } [("a", .str M "x"), ("b", .str N "y")]
    (.forTuple "" "s" (.tuple [.var "a", .var "b"])
      (.forObject "" "k" (.tuple [.var "s", .var "s"]) (.var "k") (.lit (.num N 1)) none false) none)).2 =
    [⟨"Duplicate object key", []⟩, ⟨"Duplicate object key", [.str N "y"]⟩] := rfl

/-- `o[k]` with a marked key in the Go configuration: the selected attribute comes back without mark and
    without taint (it is content of the unmarked object); a duplicate-key diagnostic echoes it. -/
theorem index_marked_key_untainted :
    eval { funcs := fun _ => none } [("o", .object N [("a", .str N "x")]), ("k", .str M "a")]
      (.index (.var "o") (.var "k")) = (.str N "x", []) := rfl

/-! ## The text writer's variable summary (`diagnostic_text.go`)

`hcl.NewDiagnosticTextWriter` prints, for a diagnostic with `Expression` and `EvalContext`, one statement
`with <traversal> as <value>` / `<traversal> set to null` per traversal in `Expression.Variables()`.  Model:
`HclModel/Diag/TextWriter.lean` (`TextW.stmtOf`, tied to the real writer by the `TEXTW` correspondence,
`props/c19/corrtextw.go`).  The scope is the chain of contexts, innermost first; the traversal resolves in the
first context that has the root name (a context with `Variables == nil` is passed over like one that lacks the
name), its steps go through `hcl.GetAttr` / `hcl.Index`, any diagnostic skips the statement.  The writer then
tests, in this order: unknown → skipped; null → `set to null`; `val.IsMarked()` — the top-level mark only —
→ skipped; else `valueStr`.  A statement is represented by its fragments (`Shown.frags`): the index keys
printed in the traversal string, and the content `valueStr` prints (`valueFrags`): strings, numbers and bools
print themselves, collections and tuples print type and length only, objects print the number of attributes —
and an object with exactly one attribute prints that attribute's **name** (a fragment with the flags of the
object node: cty cannot mark an attribute name apart from the object).

* `textwriter_clean`: every context exposes no taint (`twEnv`) and the keys are untainted ⟹ every fragment is
  untainted.  In particular for the scopes an application supplies (`exactEnv`, `textwriter_clean_exact`).
* `TextWriterFull` — only the outermost, application-supplied scope is constrained — is **false**
  (`textwriter_full_false`, `textwriter_leak_witness`): a child context that binds an element of a collection
  marked at the top without the mark (the iteration variable of `ForExpr`, the finding recorded above; dynblock
  iterators likewise) is printed.  The writer is only as good as the scope it is given.
* `textwriter_skips_marked`, `textwriter_skips_below_marked`: a value marked at the top, and everything reached
  by steps from a value marked at the top, is skipped unless it is null; a marked null is shown as
  `set to null` (`textwriter_marked_null_shown`: the nullness of a marked value is revealed, its content is not —
  there is none).  `textwriter_collections_show_no_content`.
* `textwriter_shallow_mark_check_suffices`: testing only the top-level mark is enough, because `valueStr` never
  descends: for *every* value that exposes no taint and is unmarked at the top, what is shown is untainted —
  primitives carry all their flags at the top; `{ name = <marked value> }` shows `name`, which is content of
  the unmarked, untainted object node (`textwriter_one_attr_name`), not of the marked attribute value.  What
  *is* revealed about marked content below the top: the length of a collection with marked elements, and that
  an attribute of that name exists.
-/

section TextWriter
open TextW

/-- Nothing tainted is shown when no context exposes taint. -/
theorem textwriter_clean (ctxs : List Env) (t : Trav) (hρ : ∀ ρ ∈ ctxs, twEnv ρ)
    (hk : ∀ k ∈ t.keys, untainted k = true) : ∀ f ∈ (stmtOf ctxs t).frags, untainted f = true :=
  Proofs.textwriter_clean ctxs t hρ hk

/-- … for all the statements of a diagnostic. -/
theorem textwriter_clean_stmts (ctxs : List Env) (ts : List Trav) (hρ : ∀ ρ ∈ ctxs, twEnv ρ)
    (hk : ∀ t ∈ ts, ∀ k ∈ t.keys, untainted k = true) :
    ∀ p ∈ stmts ctxs ts, ∀ f ∈ p.2.frags, untainted f = true := by
  intro p hp
  simp only [stmts, List.mem_map] at hp
  obtain ⟨t, ht, rfl⟩ := hp
  exact Proofs.textwriter_clean ctxs t hρ (hk t ht)

/-- Scopes as applications supply them (and as they come over the wire): taint exactly at and below marks. -/
theorem textwriter_clean_exact (ctxs : List Env) (t : Trav) (hρ : ∀ ρ ∈ ctxs, exactEnv ρ)
    (hk : ∀ k ∈ t.keys, untainted k = true) : ∀ f ∈ (stmtOf ctxs t).frags, untainted f = true :=
  Proofs.textwriter_clean ctxs t (fun ρ h => twEnv_of_exactEnv (hρ ρ h)) hk

/-- Full strength: only the application's (outermost) scope is under control; the child contexts are whatever
    the evaluator created.  **False.** -/
def TextWriterFull : Prop :=
  ∀ (children : List Env) (root : Env) (t : Trav), exactEnv root → (∀ k ∈ t.keys, untainted k = true) →
    ∀ f ∈ (stmtOf (children ++ [root]) t).frags, untainted f = true

/-- `sec` is a tuple marked at the top; the body of `[for v in sec : …]` is evaluated in a child context that
    binds `v` to the element — tainted, not marked.  A diagnostic raised there shows `with v as "hunter2"`. -/
theorem textwriter_leak_witness :
    ∃ f ∈ (stmtOf [[("v", .str T "hunter2")], [("sec", .tuple M [.str T "hunter2"])]] ⟨"v", []⟩).frags,
      untainted f = false := by decide

theorem textwriter_full_false : ¬ TextWriterFull := by
  intro h
  have h1 := h [[("v", .str T "hunter2")]] [("sec", .tuple M [.str T "hunter2"])] ⟨"v", []⟩
    (by intro p hp; simp only [List.mem_singleton] at hp; subst hp; exact ⟨rfl, rfl⟩)
    (by intro k hk; cases hk)
  obtain ⟨f, hf, hu⟩ := textwriter_leak_witness
  have := h1 f hf
  rw [hu] at this
  cases this

/-- A value marked at the top is not shown. -/
theorem textwriter_skips_marked (ctxs : List Env) (t : Trav) (v : Val) (h : traverseAbs ctxs t = some v)
    (hm : v.isMarked = true) (hn : v.isNull = false) : stmtOf ctxs t = .skip := by
  unfold stmtOf
  rw [h]
  rcases Proofs.shownOf_marked t v hm with h' | ⟨h1, _⟩
  · exact h'
  · rw [hn] at h1; cases h1

/-- … and if it is null, only its nullness is. -/
theorem textwriter_marked_no_content (ctxs : List Env) (t : Trav) (v : Val) (h : traverseAbs ctxs t = some v)
    (hm : v.isMarked = true) :
    stmtOf ctxs t = .skip ∨ (v.isNull = true ∧ stmtOf ctxs t = .null (travFrags t)) := by
  unfold stmtOf
  rw [h]
  exact Proofs.shownOf_marked t v hm

/-- Steps from a value marked at the top (`sec.a`, `sec[0]`, `sec["k"].b`): every result is marked at the top
    (`WithSameMarks`), hence never shown with content. -/
theorem textwriter_skips_below_marked (ctxs : List Env) (t : Trav) (r v : Val)
    (hr : lookupRoot ctxs t.root = some r) (hm : r.isMarked = true) (h : traverseAbs ctxs t = some v) :
    v.isMarked = true ∧ (stmtOf ctxs t = .skip ∨ (v.isNull = true ∧ stmtOf ctxs t = .null (travFrags t))) := by
  have hv : v.isMarked = true := by
    unfold traverseAbs at h
    rw [hr] at h
    exact Proofs.traverseRel_marked t.steps r v hm h
  exact ⟨hv, textwriter_marked_no_content ctxs t v h hv⟩

/-- The null test comes before the mark test: `sec set to null` for a marked null. -/
theorem textwriter_marked_null_shown :
    (stmtOf [[("sec", .null M .str)]] ⟨"sec", []⟩).frags = [] ∧
    (match stmtOf [[("sec", .null M .str)]] ⟨"sec", []⟩ with | .null _ => true | _ => false) = true := by
  decide

/-- Collections, tuples and objects without or with several attributes show no content at all. -/
theorem textwriter_collections_show_no_content :
    (∀ f t xs, valueFrags (.list f t xs) = []) ∧ (∀ f t kvs, valueFrags (.map f t kvs) = []) ∧
    (∀ f xs, valueFrags (.tuple f xs) = []) ∧
    (∀ f kvs, kvs.length ≠ 1 → valueFrags (.object f kvs) = []) := by
  refine ⟨fun _ _ _ => rfl, fun _ _ _ => rfl, fun _ _ => rfl, ?_⟩
  intro f kvs h
  match kvs, h with
  | [], _ => rfl
  | [_], h => exact absurd rfl h
  | _ :: _ :: _, _ => rfl

/-- **Testing the top-level mark only is enough** (full strength: every value, every shape): a value that
    exposes no taint and is not marked at the top shows only untainted content. -/
theorem textwriter_shallow_mark_check_suffices (v : Val) (hv : tw false v = true) (hm : v.isMarked = false) :
    ∀ f ∈ valueFrags v, untainted f = true :=
  Proofs.valueFrags_untainted v hv hm

/-- The one-attribute object: the name is shown whatever the attribute's value is (marked, tainted, anything);
    the fragment carries the flags of the object node, so it is tainted iff the object node is — and an
    unmarked object node in a scope that exposes no taint is not. -/
theorem textwriter_one_attr_name (f : Fl) (k : String) (x : Val) :
    valueFrags (.object f [(k, x)]) = [.str f k] ∧
    (tw false (.object f [(k, x)]) = true → f.m = false → untainted (.str f k) = true) := by
  refine ⟨rfl, fun hv hm => ?_⟩
  exact Proofs.valueFrags_untainted (.object f [(k, x)]) hv (by simpa [Val.isMarked] using hm) _
    (List.mem_singleton.mpr rfl)

/-- `{ password = <marked> }`, the object itself unmarked: the scope is exact, the name is shown, untainted -/
example : exactEnv [("o", .object N [("password", .str M "hunter2")])] ∧
    (stmtOf [[("o", .object N [("password", .str M "hunter2")])]] ⟨"o", []⟩).frags.length = 1 ∧
    ∀ f ∈ (stmtOf [[("o", .object N [("password", .str M "hunter2")])]] ⟨"o", []⟩).frags, untainted f = true :=
  ⟨by intro p hp; simp only [List.mem_singleton] at hp; subst hp; exact ⟨rfl, rfl⟩, by decide, by decide⟩

/-- the step into it is skipped (marked at the top) -/
example : traverseAbs [[("o", .object N [("password", .str M "hunter2")])]] ⟨"o", [.attr "password"]⟩ ≠ none ∧
    (stmtOf [[("o", .object N [("password", .str M "hunter2")])]] ⟨"o", [.attr "password"]⟩).frags = [] := by
  decide

/-- a marked tuple: `sec` and `sec[0]` are skipped although the element itself carries no mark -/
example : (stmtOf [[("sec", .tuple M [.str T "hunter2"])]] ⟨"sec", []⟩).frags = [] ∧
    traverseAbs [[("sec", .tuple M [.str T "hunter2"])]] ⟨"sec", [.index (.num N 0)]⟩ ≠ none ∧
    (stmtOf [[("sec", .tuple M [.str T "hunter2"])]] ⟨"sec", [.index (.num N 0)]⟩).frags = [] := by
  decide

/-- public values are shown: the string, the key of the traversal and the number, the bool -/
example : (stmtOf [[("s", .str N "abc")]] ⟨"s", []⟩).frags.length = 1 ∧
    (stmtOf [[("l", .list N .num [.num N 7])]] ⟨"l", [.index (.num N 0)]⟩).frags.length = 2 ∧
    (stmtOf [[("b", .bool N true)]] ⟨"b", []⟩).frags.length = 1 := by
  decide

/-- shadowing: the innermost context that has the name wins; a nil / empty context is passed over -/
example : (match stmtOf [[], [("x", .null N .str)], [("x", .str N "outer")]] ⟨"x", []⟩ with
    | .null _ => true | _ => false) = true := by
  decide

/-- errors skip: a missing name, a missing attribute, an index out of range -/
example : (stmtOf [[("s", .str N "abc")]] ⟨"zz", []⟩).frags = [] ∧
    (stmtOf [[("s", .str N "abc")]] ⟨"s", [.attr "a"]⟩).frags = [] ∧
    (stmtOf [[("l", .list N .num [.num N 7])]] ⟨"l", [.index (.num N 1)]⟩).frags = [] := by
  decide

end TextWriter

end HclModel
