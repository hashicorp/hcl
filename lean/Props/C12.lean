import Proofs.Nodes
/-!
# C12 — any sequence of writer edits leaves a valid file that matches the edits (one body's bookkeeping)

`St` is the pointer-level state of one `hclwrite.Body` (doubly linked child list + item set), `step` the body
operations of ast_body.go built on `AppendNode` / `Detach` (`HclModel/Write/Nodes.lean`, tied to the code by the
`WOP` correspondence on random edit histories).  `specStep` is the simple list/map model of the property.
Token-level well-formedness of the serialised file (newlines between items, single-line blocks …) is covered
by the direct oracle only.
-/
namespace HclModel.Nodes

/-- Every reachable state is structurally sound: the links form one duplicate-free list consistent with
    first/last, every item is an attached child, attribute names are unique. -/
theorem reachable_wellformed (ops : List Op) (h : freshIds [] ops) : WellFormed (runOps St.init ops) :=
  Proofs.reachable_wellformed ops h

/-- Refinement: after any history, the structured content of the body is exactly what the simple list model
    predicts — same items, same order. -/
theorem refines (ops : List Op) (h : freshIds [] ops) : abs (runOps St.init ops) = specRun [] ops :=
  Proofs.refines ops h

/-- The read accessor agrees with the model after any history. -/
theorem accessor_agrees (ops : List Op) (h : freshIds [] ops) (name : String) :
    getAttribute (runOps St.init ops) name = specGetAttribute (specRun [] ops) name :=
  Proofs.accessor_agrees ops h name

/-- Items never touched by an edit keep their content: an edit that names another attribute leaves it alone. -/
theorem untouched (l : List Item) (name other : String) (e e' : Nat) (hne : other ≠ name)
    (h : Item.attr name e ∈ l) :
    Item.attr name e ∈ specStep l (.setAttr other e') ∧ Item.attr name e ∈ specStep l (.removeAttr other) :=
  Proofs.untouched l name other e e' hne h

/-- non-vacuity: a history with removal in the middle, re-setting, renaming and a removed block -/
example : abs (runOps St.init [.setAttr "a" 1, .appendBlock "b" ["x"] 7, .appendNewline, .setAttr "c" 2,
      .removeAttr "a", .setAttr "c" 3, .renameAttr "c" "d", .appendBlock "b" [] 8, .removeBlock 7]) =
    [.attr "d" 3, .block "b" [] 8] := by decide +kernel

end HclModel.Nodes
