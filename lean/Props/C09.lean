import Proofs.Format
/-!
# C09 — formatting changes only inter-token spacing and is idempotent

`format` models `hclwrite/format.go` on the token list (`HclModel/Write/Format.lean`).  All statements are for an
arbitrary rule table `R` (the compiled `spaceAfterToken` / `tokenBracketChange`, dumped at check time
and used as the parameter of the executable model in the correspondence run).
-/
namespace HclModel.Format

/-- Formatting never adds, drops, reorders or alters a token: only `SpacesBefore` may change. -/
theorem format_only_spaces (R : Rules) (ts : List Tok) :
    (format R ts).map erase = ts.map erase :=
  Proofs.format_map_erase R ts

/-- The output spacing is a function of the token sequence alone: the input's own spacing is never
    read before it is overwritten (no stale column counts, no dependence on existing indentation). -/
theorem format_spacing_independent (R : Rules) (ts ts' : List Tok)
    (h : ts.map erase = ts'.map erase) (he : eofSp ts = eofSp ts') :
    format R ts = format R ts' :=
  Proofs.format_indep R ts ts' h he

/-- Token-level idempotence. -/
theorem format_idempotent_tokens (R : Rules) (ts : List Tok) :
    format R (format R ts) = format R ts :=
  Proofs.format_idem R ts

/-- An abstract lexer / serialiser pair (the Ragel scanner is not modelled). -/
structure Lexer (Bytes : Type) where
  lex : Bytes → List Tok
  render : List Tok → Bytes

def Format {B : Type} (L : Lexer B) (R : Rules) (src : B) : B := L.render (format R (L.lex src))

/-- re-lexing the re-spaced text yields the formatted token list (types, bytes and spacing) -/
def LexStable {B : Type} (L : Lexer B) (R : Rules) (src : B) : Prop :=
  L.lex (Format L R src) = format R (L.lex src)

theorem format_preserves_tokens {B : Type} (L : Lexer B) (R : Rules) (src : B)
    (h : LexStable L R src) : (L.lex (Format L R src)).map erase = (L.lex src).map erase := by
  rw [h]; exact format_only_spaces R _

theorem format_bytes_idempotent {B : Type} (L : Lexer B) (R : Rules) (src : B)
    (h : LexStable L R src) : Format L R (Format L R src) = Format L R src := by
  unfold Format at *
  unfold LexStable Format at h
  rw [h, format_idempotent_tokens]

/-- non-vacuity: a concrete rule table and token list on which the formatter does real work -/
def exR : Rules := { spaceAfter := fun s _ _ a => !(s == 46 || a == 46 || a == 10), bracket := fun t => if t = 123 then 1 else if t = 125 then -1 else 0 }
def exToks : List Tok :=
  [⟨73, false, false, 1, 3⟩, ⟨61, false, false, 1, 0⟩, ⟨78, false, false, 1, 5⟩, ⟨10, false, true, 1, 2⟩,
   ⟨73, false, false, 3, 0⟩, ⟨61, false, false, 1, 0⟩, ⟨78, false, false, 1, 0⟩, ⟨10, false, true, 1, 0⟩,
   ⟨9220, false, false, 0, 4⟩]
example : (format exR exToks).map (·.sp) = [0, 3, 1, 0, 0, 1, 1, 0, 4] := by decide +kernel

end HclModel.Format
