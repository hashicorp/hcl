import Proofs.OpParser
import Proofs.OpTable
import HclModel.Gen.BinaryOps
import Proofs.Template
/-!
# C01 — expression evaluation conforms to the specification (operator grammar part)

Precedence and associativity.  The parser model (`HclModel/Syntax/OpParser.lean`) has the loop structure
of `parseBinaryOps` / `parseExpressionTerm`; it is tied to the real parser by the `PARSEX` correspondence
on generated operator chains.  The operator table is regenerated from the compiled `binaryOps` on every
check (`HclModel/Gen/BinaryOps.lean`).

The evaluator part of C01 is the `EVAL` correspondence of `HclModel/Expr/Eval.lean` (see DESIGN.md).
-/
namespace HclModel.OpParser

/-- The compiled operator table is the specification's table (levels, tokens and operations). -/
theorem gen_table_is_spec : Gen.binaryOps = specOps := by decide +kernel

/-- Round trip for EVERY level table: a tree printed with the parentheses that precedence and left
    associativity require parses back to exactly that tree. -/
theorem parse_render_any_table (T : Tbl) (e : E) (h : WP T T.L e) : parse T (render e) = some e :=
  parse_render T e h

/-- `parenthesize` inserts exactly such parentheses, and nothing else changes. -/
theorem parenthesize_wp (T : Tbl) (e : E) (h : opsKnown T e) : WP T T.L (parenthesize T T.L e) :=
  Proofs.parenthesize_wp T e h

theorem parenthesize_erase (T : Tbl) (d : Nat) (e : E) : eraseParens (parenthesize T d e) = eraseParens e :=
  Proofs.parenthesize_erase T d e

/-- Hence every operator tree over the compiled table has a rendering that the parser reads back as the same
    tree up to parentheses: grouping is decided by the table alone. -/
theorem every_tree_round_trips (e : E) (h : opsKnown (tblOf Gen.binaryOps) e) :
    ∃ e', parse (tblOf Gen.binaryOps) (render (parenthesize (tblOf Gen.binaryOps) (tblOf Gen.binaryOps).L e)) = some e' ∧
      eraseParens e' = eraseParens e :=
  ⟨_, parse_render _ _ (parenthesize_wp _ e h), parenthesize_erase _ _ e⟩

/-- Left associativity and relative precedence, concretely (a sanity check of the table orientation):
    `1 - 2 - 3 * 4 + 5` groups as `((1 - 2) - (3 * 4)) + 5`. -/
example : parse (tblOf Gen.binaryOps)
    [.atom 1, .op 45, .atom 2, .op 45, .atom 3, .op 42, .atom 4, .op 43, .atom 5] =
    some (.bin 43 (.bin 45 (.bin 45 (.atom 1) (.atom 2)) (.bin 42 (.atom 3) (.atom 4))) (.atom 5)) := by
  -- `decide` cannot reduce the well-founded recursion of the parser: unfold it by rewriting instead
  have hL : (tblOf Gen.binaryOps).L = 6 := by decide
  have h45 : (tblOf Gen.binaryOps).lv 45 = some 2 := by decide
  have h42 : (tblOf Gen.binaryOps).lv 42 = some 1 := by decide
  have h43 : (tblOf Gen.binaryOps).lv 43 = some 2 := by decide
  simp [parse, hL, parseLevel, loopLevel, parseTerm, h45, h42, h43]

end HclModel.OpParser

/-! ## the template sub-language: strip markers, flush heredocs, melding

`HclModel/Syntax/Template.lean` models what `parseTemplateParts`, `flushHeredocTemplateParts` and
`meldConsecutiveStringLiterals` do to the scanner's template tokens; it is tied to the real template parser by
the `TMPL` correspondence (generated quoted templates and plain / flush heredocs with interpolations, `if` /
`else` / `for` directives, strip markers on every opener and closer, CRLF line endings; the model's tokens are
compared with the tree the parser built).  `sp` stands for `unicode.IsSpace`: every theorem holds whatever
it answers. -/
namespace HclModel.Template

/-- Whatever the strip markers, the flush rule and melding do, they remove white space only: the non-space
    characters and the `${ … }` / `%{ … }` sequences of a template come out exactly as written, in order — for
    quoted templates and both kinds of heredoc. -/
theorem process_preserves_content (sp : Char → Bool) (flushHeredoc : Bool) (raws : List Raw) :
    skel sp (process sp flushHeredoc raws) = skel sp (naive raws) := by
  unfold process
  cases flushHeredoc <;> simp [Proofs.skel_meld, Proofs.skel_flush, Proofs.skel_parts]

/-- A template without strip markers is taken as written, white space included (an empty template is one empty
    literal); with `process`, only the flush rule and melding apply. -/
theorem no_markers_as_written (sp : Char → Bool) (raws : List Raw) (h : raws.all Proofs.noStrip = true) :
    parts sp raws = (match naive raws with | [] => [.lit []] | ps => ps) :=
  Proofs.parts_noStrip sp raws h

/-- The flush rule removes the minimum of the counted indentations (`Proofs.counted`: the literals that start a
    line and are not blank lines count with their leading white space, a sequence that starts a line counts 0,
    everything else does not count), and nothing when no token counts. -/
theorem flush_removes_minimum (sp : Char → Bool) (ps : List Part) :
    flush sp ps = (match (Proofs.counted sp true ps).min? with
                   | none => ps
                   | some m => adjust sp m true ps) := by
  unfold flush
  rw [Proofs.minIndent_eq_min]
  cases (Proofs.counted sp true ps).min? <;> rfl

/-- Flushing is idempotent: once the smallest indentation has been removed the smallest indentation is 0 (line
    structure and blank lines are not disturbed by the removal). -/
theorem flush_idempotent (sp : Char → Bool) (ps : List Part) : flush sp (flush sp ps) = flush sp ps :=
  Proofs.flush_idem sp ps

/-- Melding keeps all the text and leaves no two literals adjacent. -/
theorem meld_keeps_text (ps : List Part) : text (meld ps) = text ps := Proofs.text_meld ps

theorem meld_no_adjacent_literals (ps : List Part) : Proofs.noAdjacentLits (meld ps) = true :=
  Proofs.meld_noAdjacent ps

/-- A flush heredoc: the smallest indentation (2, of `  a`) is removed from every counted line; the blank line
    and the deeper indentation keep what is left. -/
example : process (fun c => c = ' ' || c = '\n') true
    [.lit "  a\n".toList, .lit "    b\n".toList, .lit "\n".toList, .lit "  ".toList, .seq .interp 0 false false, .lit "\n".toList] =
    [.lit "a\n  b\n\n".toList, .seq .interp 0, .lit "\n".toList] := by
  decide +kernel

/-- A line that starts with a sequence has indentation 0: nothing is removed. -/
example : process (fun c => c = ' ' || c = '\n') true
    [.lit "  a\n".toList, .seq .interp 0 false false, .lit "\n".toList] =
    [.lit "  a\n".toList, .seq .interp 0, .lit "\n".toList] := by
  decide +kernel

/-- Strip markers trim the literal token next to the sequence, on the marked side only. -/
example : process (fun c => c = ' ' || c = '\n') false
    [.lit "a  ".toList, .seq .interp 0 true false, .lit "  b ".toList, .seq .ctrl 1 false true, .lit " c".toList] =
    [.lit "a".toList, .seq .interp 0, .lit "  b ".toList, .seq .ctrl 1, .lit "c".toList] := by
  decide +kernel

end HclModel.Template
