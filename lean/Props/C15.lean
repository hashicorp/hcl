import Proofs.Skel
import HclModel.Gen.ParserSkel
import HclModel.Gen.DiagSites
/-!
# C15 — front ends are total: the peeker's newline-stack assertion cannot fire

`Gen.parserSkel` is the push/pop control skeleton of `hclsyntax/{parser,parser_template,
parser_traversal,public}.go`, regenerated from the Go AST on every check.  `balanced` is a verified
checker (`balanced_sound`, in `Proofs/Skel.lean`).
-/
namespace HclModel.Skel

/-- The regenerated skeleton of the real parser passes the checker. -/
theorem skeleton_balanced : balanced Gen.parserSkel = true := by decide +kernel

/-- Every terminating execution of every parser function — error-recovery paths included — returns at
    its entry depth of the newline-sensitivity stack; at each `AssertEmptyIncludeNewlinesStack` site
    (translated as a possible return) the depth is the entry depth, so the assertion cannot fire. -/
theorem parser_returns_at_entry_depth (f : Nat) (body : Stmt) (hf : Gen.parserSkel[f]? = some body)
    (d d' : Int) (k : Kind) (h : Exec Gen.parserSkel body d k d') : d' = d :=
  balanced_sound Gen.parserSkel skeleton_balanced f body hf d d' k h

/-- non-vacuity: the skeleton really contains the stack operations (42 push/pop sites at the
    checked commit; any positive number will do) and the entry points -/
example : 0 < Gen.parserSkelSites ∧ "ParseConfig" ∈ Gen.parserSkelNames ∧ "parseTemplateParts" ∈ Gen.parserSkelNames := by decide +kernel

/-- the checker is not trivially true: a function that forgets one pop on one path is rejected -/
example : balanced [.seq .push (.seq (.call 1) (.choice (.seq (.call 0) .ret) (.seq .pop .ret))), .skip] = false := by decide

end HclModel.Skel

/-! ## every diagnostic the library builds has a severity and a summary

`Gen.diagSites` lists every composite literal of type `hcl.Diagnostic` in the non-test source of the library
packages (root, hclsyntax, json, hclwrite, hcldec, gohcl, hclsimple, hclparse, ext/…), regenerated from the
Go AST on every check. -/
namespace HclModel.DiagSites

/-- The regenerated table passes the check. -/
theorem diag_sites_well_formed : allWellFormed Gen.diagSites = true := by decide +kernel

/-- Every diagnostic literal anywhere in the library names one of the two severities (so `DiagInvalid`, the
    zero value, cannot come out of it) and sets a summary that is not the empty string literal. -/
theorem every_diag_literal_has_severity_and_summary (s : Site) (h : s ∈ Gen.diagSites) :
    (s.sev = 1 ∨ s.sev = 2) ∧ (s.summary = 1 ∨ s.summary = 3) :=
  (allWellFormed_iff Gen.diagSites).mp diag_sites_well_formed s h

/-- Every diagnostic literal of the two parsing front ends (hclsyntax, json) sets a subject range, except in
    `json/public.go`, whose three sites report that a file could not be opened or read (there is no input to
    point into). -/
theorem front_end_diags_have_subject :
    (noSubject Gen.diagSites).all (fun p => p.1 == "json/public.go") = true := by decide +kernel

/-- non-vacuity: the table is not empty and covers both front ends -/
example : 200 < Gen.diagSiteCount ∧ Gen.diagSites.length = Gen.diagSiteCount ∧
    (Gen.diagSites.filter (·.pkg == 1)).length > 100 ∧ (Gen.diagSites.filter (·.pkg == 2)).length > 20 := by decide +kernel

/-- the check is not trivially true -/
example : allWellFormed [⟨"x.go", 1, 10, 0, 1, true, true, false⟩] = false := by decide
example : allWellFormed [⟨"x.go", 1, 10, 1, 2, true, true, false⟩] = false := by decide

end HclModel.DiagSites
