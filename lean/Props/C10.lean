import Proofs.Loader
/-!
# C10 — loading a file into the writer AST and saving it loses nothing (token distribution)

`buildFile` models how `hclwrite.ParseConfig` hands the source tokens to the nodes of the writer tree, guided
by the native AST's ranges (`HclModel/Write/Loader.lean`).  Serialising an unmodified tree is `flatten`.
-/
namespace HclModel.Loader

/-- Whatever the ranges are, as long as loading does not panic (`some`) and no traversal leaves tokens after
    its last step (the one place where the Go code does not re-attach a remainder; the flag is `true` whenever
    a traversal's range is the span of its steps), saving the tree gives back exactly the source tokens up to
    order: none dropped, none duplicated. -/
theorem flatten_build_perm (fuel : Nat) (rng : Rng) (items : List ItemAst) (toks : List Tok) (tree : Tree)
    (h : buildFile fuel rng items toks = some (tree, true)) : (flatten tree).Perm toks :=
  Proofs.flatten_build_perm fuel rng items toks tree h

/-- ... and none reordered, PROVIDED every `"attr"` node of the tree is *tight* (`tight`, defined in
    `Proofs/Loader.lean`: its last child, the "stragglers" = tokens inside the attribute's range but after its
    expression's range, is empty, or its line-comment and newline children are both empty).

    Without the `tight` hypothesis the statement is false (`flatten_build_unconditional_false` below):
    `parseAttribute` (hclwrite/parser.go:278-287) appends
    `lineComments`, then `newline`, and only then the stragglers `from`, although in the source the stragglers
    precede the line comment / newline.  Counterexample: tokens `a`@0 `=`@2 `1`@4 `x`@6 `⏎`@8 `EOF`@9, one
    attribute with range [0,8), name [0,1), equals [2,3), expression [4,5): the saved order is `a = 1 ⏎ x EOF`.
    (`parseBlock` appends its stragglers BEFORE the line comments and newline, so blocks are in order.)  The native
    parser builds an attribute's range to end where its expression's range ends, so the stragglers are empty for
    ASTs produced by `hclsyntax`; the defect is latent ("though there shouldn't be any" in the Go comment). -/
theorem flatten_build (fuel : Nat) (rng : Rng) (items : List ItemAst) (toks : List Tok) (tree : Tree)
    (h : buildFile fuel rng items toks = some (tree, true)) (ht : tight tree = true) : flatten tree = toks :=
  Proofs.flatten_build fuel rng items toks tree h ht

/-- the statement without the tightness hypothesis is refuted by the counterexample above -/
theorem flatten_build_unconditional_false :
    ¬ ∀ (fuel : Nat) (rng : Rng) (items : List ItemAst) (toks : List Tok) (tree : Tree),
      buildFile fuel rng items toks = some (tree, true) → flatten tree = toks :=
  Proofs.flatten_build_unconditional_false

/-- The partition primitive never loses a token, for any range. -/
theorem partition_concat (toks : List Tok) (rng : Rng) :
    (partition toks rng).1 ++ (partition toks rng).2.1 ++ (partition toks rng).2.2 = toks :=
  Proofs.partition_concat toks rng

/-- non-vacuity: `a = x.y[0] # c⏎ b "l" { }⏎ EOF` with comments and a traversal -/
example :
    let toks : List Tok := [⟨0, .ident, 0⟩, ⟨2, .other, 1⟩, ⟨4, .ident, 2⟩, ⟨5, .dot, 3⟩, ⟨6, .ident, 4⟩, ⟨7, .obrack, 5⟩,
      ⟨8, .number, 6⟩, ⟨9, .cbrack, 7⟩, ⟨11, .comment true, 8⟩, ⟨15, .ident, 9⟩, ⟨17, .other, 10⟩, ⟨21, .other, 11⟩,
      ⟨23, .other, 12⟩, ⟨24, .newline, 13⟩, ⟨25, .eof, 14⟩]
    let items : List ItemAst := [
      .attr ⟨0, 10⟩ ⟨0, 1⟩ ⟨2, 3⟩ ⟨⟨4, 10⟩, [⟨⟨4, 10⟩, [.name ⟨4, 5⟩, .name ⟨5, 7⟩, .index ⟨7, 10⟩ .num]⟩]⟩,
      .block ⟨15, 24⟩ ⟨15, 16⟩ [⟨17, 20⟩] ⟨21, 22⟩ ⟨23, 24⟩ ⟨22, 23⟩ []]
    (buildFile 10 ⟨0, 25⟩ items toks).map (fun p => (flatten p.1 == toks, tight p.1, p.2)) = some (true, true, true) := by
  decide +kernel

end HclModel.Loader
