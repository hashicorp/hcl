import Proofs.Static
import Proofs.TypeExpr
import Proofs.Traversal
/-!
# C20 — static analysis of an expression agrees with its evaluation and round-trips

`asTraversal` / `traverseAbs` model `hcl.AbsTraversalForExpr` and `Traversal.TraverseAbs` on the evaluator
model (`HclModel/Expr/Static.lean`); `typeString` / `parseType` model `typeexpr.TypeString` and the reading
of type-constraint expressions (`HclModel/Syntax/TypeExpr.lean`).  The stand-alone traversal parser has a model
and theorems of its own (last section of this file); the JSON static views are covered by the direct oracle only.
-/
namespace HclModel

/-- Whenever an expression can be interpreted statically as a traversal, applying that traversal to a scope
    gives exactly the expression's value, and reports an error exactly when evaluation does.

    The plain equation `eval F ρ e = traverseAbs F ρ t` is false for the diagnostics:
    `TraverseRel` stops at the first failing step, and so does the evaluation of an attribute access
    (`.getAttr`), but the evaluation of `.index e (.lit k)` still applies `hcl.Index` to the
    `cty.DynamicVal` left by the failed source.  That is silent for every key except a null one, for which
    `Index` reports "null key" (the null-collection test comes first, and `DynamicVal` is not null): one
    extra diagnostic (`traversal_diags_differ`: `x.missing[null]`).  Full equality holds when the traversal
    has no null literal key (`traversal_agrees_exact`) and when it succeeds (`traversal_agrees_ok`). -/
theorem traversal_agrees (F : Cx) (e : Expr) (t : Trav) (h : asTraversal e = some t) (ρ : Env) :
    (eval F ρ e).1 = (traverseAbs F ρ t).1 ∧
      hasErrors (eval F ρ e).2 = hasErrors (traverseAbs F ρ t).2 :=
  Proofs.traversal_agrees F e t h ρ

/-- Without a null literal key among the index steps, value and diagnostics are identical. -/
theorem traversal_agrees_exact (F : Cx) (e : Expr) (t : Trav) (h : asTraversal e = some t)
    (hn : t.noNullKeys = true) (ρ : Env) : eval F ρ e = traverseAbs F ρ t :=
  Proofs.traversal_agrees_exact F e t h hn ρ

/-- When the traversal succeeds, value and (empty) diagnostics are identical. -/
theorem traversal_agrees_ok (F : Cx) (e : Expr) (t : Trav) (h : asTraversal e = some t) (ρ : Env)
    (hok : hasErrors (traverseAbs F ρ t).2 = false) : eval F ρ e = traverseAbs F ρ t :=
  Proofs.traversal_agrees_ok F e t h ρ hok

/-- Counterexample to full equality: `x.missing[null]` with `x = {}` evaluates with two diagnostics
    ("no such attribute", "null key"); the traversal reports only the first. -/
theorem traversal_diags_differ :
    let F : Cx := { funcs := fun _ => none }
    let ρ : Env := [("x", .object Fl.none [])]
    let e : Expr := .index (.getAttr (.var "x") "missing") (.lit (.null Fl.none .dyn))
    let t : Trav := ⟨"x", [.attr "missing", .index (.null Fl.none .dyn)]⟩
    asTraversal e = some t ∧ (eval F ρ e).2.length = 2 ∧ (traverseAbs F ρ t).2.length = 1 :=
  Proofs.traversal_diags_differ

/-- The static list parts of a tuple constructor evaluate to the elements of the whole. -/
theorem static_list_parts (F : Cx) (e : Expr) (es : List Expr) (h : exprList e = some es) (ρ : Env) :
    eval F ρ e = (.tuple Fl.none (evalList F ρ es).1, (evalList F ρ es).2) :=
  Proofs.static_list_parts F e es h ρ

namespace TypeExpr

/-- Type-constraint expressions rendered from a type parse back to the identical type, provided no object
    type has `for` as its first attribute name (recorded finding: `object({for=string})`). -/
theorem type_roundtrip (ty : CTy) (h : noLeadingFor ty = true) : parseType (typeString ty) = some ty :=
  Proofs.type_roundtrip ty h

/-- The guard is necessary. -/
theorem type_roundtrip_needs_guard : parseType (typeString (.object [("for", .str)])) = none := by decide

/-- non-vacuity -/
example : parseType (typeString (.object [("a", .list .str), ("b", .tuple [.num, .map .any])])) =
    some (.object [("a", .list .str), ("b", .tuple [.num, .map .any])]) := by rfl

end TypeExpr
end HclModel

/-! ## the stand-alone traversal parser and the expression parser

`HclModel/Syntax/Traversal.lean` models both readers of a static traversal on the scanner's tokens:
`standalone` is `hclsyntax.ParseTraversalAbs`, `viaExpression` is `hclsyntax.ParseExpression` followed by
`hcl.AbsTraversalForExpr`; both are tied to the code by the `TRAV` correspondence on random token strings. -/
namespace HclModel.Trav

/-- A text accepted by the stand-alone traversal parser denotes the same traversal for the expression parser:
    same root, same attribute names, same index keys (numbers and strings after escape processing), whatever
    newlines lie between the tokens. -/
theorem standalone_agrees_with_expression_parser (ts : List Tok) (t : T) (h : standalone ts = some t) :
    viaExpression ts = some t :=
  Proofs.viaExpression_of_standalone ts t h

/-- The converse does not hold: the legacy index form `a.0` is a static traversal for the expression parser
    only (the stand-alone parser demands a name after a dot). -/
theorem legacy_index_only_in_expressions :
    ∃ ts t, viaExpression ts = some t ∧ standalone ts = none :=
  ⟨[.ident ['a'], .dot, .num 0 false], ⟨['a'], [.index (.num 0)]⟩, by decide, by decide⟩

/-- …and `a.0.1`, scanned as the one number `0.1` after the dot, is rejected by both. -/
example : viaExpression [.ident ['a'], .dot, .num 1 true] = none ∧ standalone [.ident ['a'], .dot, .num 1 true] = none := by
  decide

/-- non-vacuity: a traversal with every kind of step, newlines inside the brackets -/
example : standalone [.ident ['a'], .dot, .ident ['b'], .obrack, .newline, .num 7 false, .cbrack, .obrack, .str ['k', '\\', 'n'], .newline, .cbrack] =
    some ⟨['a'], [.attr ['b'], .index (.num 7), .index (.str ['k', '\n'])]⟩ := by decide

end HclModel.Trav
