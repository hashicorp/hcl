import Proofs.Decode
/-!
# C08 — decoding always yields a value of the specification's implied type

`decode` / `impliedType` model hcldec (`HclModel/Dec/Decode.lean`; the direct oracle compares the real
`hcldec.Decode` with `ImpliedType` over generated spec trees and bodies).  A `crash` stands for a Go panic.
-/
namespace HclModel.Dec

/-- Whatever the body contains — missing, extra, mistyped or duplicated items — a decode that returns at all
    returns a value whose type conforms to the implied type (equal wherever the implied type is not dynamic). -/
theorem decode_conforms_partial (s : Spec) (hw : wf s = true) (hok : okSpec s = true)
    (attrs : List DAttr) (blocks : List DBlock) (labels : List String) (v : Val) (err : Bool)
    (h : decode s attrs blocks labels = .ok v err) : conforms v.typeOf (impliedType s) = true :=
  Proofs.decode_conforms s hw hok attrs blocks labels v err h

/-- The full-strength statement (no `okSpec`)… -/
def DecodeConformsFull : Prop :=
  ∀ (s : Spec), wf s = true → ∀ attrs blocks labels v err,
    decode s attrs blocks labels = .ok v err → conforms v.typeOf (impliedType s) = true

/-- …fails for a BlockList over a dynamically typed attribute: `b { a = 1 }` + `b { a = "x" }` under
    `BlockListSpec{b, AttrSpec{a, any}}` returns `cty.DynamicVal`, not a list (existing tests expect this). -/
theorem blocklist_dynamic_counterexample : ¬ DecodeConformsFull := by
  intro h
  -- `decode` is defined by well-founded recursion (no kernel reduction): unfold it with its equation lemmas
  have hd : decode (.blockList "b" (.attr "a" .dyn false) 0 0) []
      [.mk "b" [] [⟨"a", .num {} 1, false⟩] [], .mk "b" [] [⟨"a", .str {} "x", false⟩] []] [] = .ok Val.dynVal true := by
    simp [decode, blocksOf, decodeBlocks, DBlock.type, DBlock.attrs, DBlock.blocks, DBlock.labels, findAttr,
      Proofs.convert_dyn, Val.typeOf]
  have := h (.blockList "b" (.attr "a" .dyn false) 0 0) (by decide) []
    [.mk "b" [] [⟨"a", .num {} 1, false⟩] [], .mk "b" [] [⟨"a", .str {} "x", false⟩] []] [] Val.dynVal true hd
  revert this; decide

/-- …and for a BlockMap with two labels on a body without such blocks: `map(string)` instead of the implied
    `map(map(string))`. -/
theorem blockmap_multilabel_empty_counterexample :
    decode (.blockMap "b" 2 (.attr "a" .str false)) [] [] [] = .ok (.map {} .str []) false ∧
    impliedType (.blockMap "b" 2 (.attr "a" .str false)) = .map (.map .str) := by
  constructor
  · simp [decode, blocksOf, decodeMap, hasDyn, impliedType]; rfl
  · rfl

/-- The places where the code hands values of different types to `cty.MapVal` are crashes of the model (so the
    theorem above says nothing about them), and the map takes the type of its values, not the declared one:
    `b { x = 1, y = "s" }` under `BlockAttrsSpec{b, any}` panics; `b { x = 1, y = <cty.DynamicVal> }` is a
    `map(number)` whose `y` is an unknown number. -/
theorem blockattrs_dynamic_examples :
    decode (.blockAttrs "b" .dyn false) []
        [.mk "b" [] [⟨"x", .num {} 1, false⟩, ⟨"y", .str {} "s", false⟩] []] [] = .crash "inconsistent map element types" ∧
    decode (.blockAttrs "b" .dyn false) [] [.mk "b" [] [⟨"x", .num {} 1, false⟩, ⟨"y", Val.dynVal, true⟩] []] [] =
      .ok (.map {} .num [("x", .num {} 1), ("y", .unk {} .num)]) true := by
  have h1 : (Ty.num == Ty.dyn) = false := rfl
  have h2 : (Ty.str == Ty.dyn) = false := rfl
  have h3 : (Ty.str == Ty.num) = false := rfl
  constructor
  · simp [decode, blocksOf, DBlock.type, DBlock.attrs, Proofs.convert_dyn, hasDyn, insertSorted, mapVal, mapElemTy,
      Val.typeOf, h1, h2, h3]
  · simp [decode, blocksOf, DBlock.type, DBlock.attrs, Proofs.convert_dyn, hasDyn, insertSorted, mapVal, mapElemTy,
      retype, Val.typeOf, Val.dynVal, h1]
    rfl

/-- Likewise for a BlockMap whose elements differ in type (here through a DefaultSpec outside `wf`):
    `b "k" { a = "a" }` + `b "l" {}` under `BlockMapSpec{b, [key], Default{Attr{a, string}, Literal{1}}}` panics. -/
theorem blockmap_mixed_example :
    decode (.blockMap "b" 1 (.default (.attr "a" .str false) (.literal (.num {} 1)))) []
      [.mk "b" ["k"] [⟨"a", .str {} "a", false⟩] [], .mk "b" ["l"] [] []] [] = .crash "inconsistent map element types" := by
  have h1 : convert (.str {} "a") .str = .ok (.str {} "a") := HclModel.Proofs.convert_same _ _ rfl
  have h2 : (Ty.str == Ty.dyn) = false := rfl
  have h3 : (Ty.num == Ty.dyn) = false := rfl
  have h4 : (Ty.num == Ty.str) = false := rfl
  simp [decode, blocksOf, decodeMap, mtInsert, lookupKey, insertSorted, mtVal, mtVals, mapVal, mapElemTy, DBlock.type,
    DBlock.attrs, DBlock.blocks, DBlock.labels, findAttr, h1, h2, h3, h4, Val.typeOf, impliedType, hasDyn, Val.isNull]

/-- Without label names BlockMap / BlockObject panic only on meeting a block (`Labels[:len(LabelNames)-1]`). -/
theorem no_label_names_examples :
    decode (.blockMap "b" 0 (.attr "a" .str false)) [] [] [] = .ok (.map {} .str []) false ∧
    decode (.blockObject "b" 0 (.attr "a" .str false)) [] [] [] = .ok (.object {} []) false ∧
    decode (.blockMap "b" 0 (.attr "a" .str false)) [] [.mk "b" [] [] []] [] = .crash "BlockMapSpec without labels" ∧
    decode (.blockObject "b" 0 (.attr "a" .str false)) [] [.mk "b" [] [] []] [] = .crash "BlockObjectSpec without labels" := by
  refine ⟨?_, ?_, ?_, ?_⟩
  · simp [decode, blocksOf, decodeMap, hasDyn, impliedType]; rfl
  · simp [decode, blocksOf, decodeMap, mtObj, mtObjs]; rfl
  · simp [decode, blocksOf, DBlock.type, hasDyn, impliedType]
  · simp [decode, blocksOf, DBlock.type]

/-- non-vacuity: a spec using most kinds, decoded from a perturbed body (missing attribute, extra block) -/
example :
    (match decode (.object [("l", .blockList "svc" (.object [("n", .attr "name" .str true), ("id", .blockLabel 0)]) 0 0),
                            ("m", .blockMap "kv" 1 (.attr "v" .num false)),
                            ("x", .default (.attr "x" .num false) (.literal (.num {} 5)))])
        [] [.mk "svc" ["a"] [⟨"name", .str {} "n1", false⟩] [], .mk "svc" ["b"] [] [], .mk "kv" ["k"] [⟨"v", .str {} "7", false⟩] []] [] with
     | .ok v _ => some v.typeOf
     | .crash _ => none) =
    some (.object [("l", .list (.object [("n", .str), ("id", .str)])), ("m", .map .num), ("x", .num)]) := by
  have h1 : convert (.str {} "n1") .str = .ok (.str {} "n1") := HclModel.Proofs.convert_same _ _ rfl
  -- whether or not "7" converts to a number (`classifyNumStr`), the attribute's value has type number
  have hc : ∀ v, convert (.str {} "7") .num = .ok v → v.typeOf = .num := fun v h =>
    Proofs.conforms_eq _ _ (Proofs.convert_conforms _ _ _ h) rfl
  have hnd : (Ty.num == Ty.dyn) = false := rfl
  rcases hr : convert (.str {} "7") .num with e | v
  · simp [decode, decodeFields, blocksOf, decodeBlocks, decodeMap, mtInsert, lookupKey, insertSorted, mtVal, mtVals,
      mapVal, mapElemTy, hnd, DBlock.type, DBlock.attrs, DBlock.blocks, DBlock.labels, findAttr, h1, hr, Val.typeOf, impliedType, hasDyn,
      Val.isNull, Val.typeOfFields]
  · have := hc v hr
    simp [decode, decodeFields, blocksOf, decodeBlocks, decodeMap, mtInsert, lookupKey, insertSorted, mtVal, mtVals,
      mapVal, mapElemTy, hnd, DBlock.type, DBlock.attrs, DBlock.blocks, DBlock.labels, findAttr, h1, hr, Val.typeOf, impliedType, hasDyn,
      Val.isNull, Val.typeOfFields, this]

end HclModel.Dec
