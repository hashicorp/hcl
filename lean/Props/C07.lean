import Proofs.FreeVars
/-!
# C07 — reported variable references are a complete dependency set

`fv e` is the model of the root names reported by `Variables()` (tied to the Go walker by the `VARS`
correspondence); `eval` is the evaluator model (tied by `EVAL`).
-/
namespace HclModel

/-- Evaluation depends only on the reported variables: value AND diagnostics are identical in any two
    scopes that agree on them — in particular in the scope pruned to the reported names and in any larger
    scope, and after changing any variable that is not reported. -/
theorem vars_complete (F : Cx) (e : Expr) (ρ σ : Env) (h : AgreeOn (fv e) ρ σ) :
    eval F ρ e = eval F σ e :=
  Proofs.eval_agree F e ρ σ h

/-- pruning a scope to the reported names -/
def Env.prune (ρ : Env) (S : List String) : Env := ρ.filter fun p => S.contains p.1

theorem eval_pruned (F : Cx) (e : Expr) (ρ : Env) : eval F (ρ.prune (fv e)) e = eval F ρ e :=
  Proofs.eval_pruned F e ρ

/-- Names bound by a for-expression are not reported on account of their uses in the value, key and
    condition expressions (they are reported only if the collection expression itself refers to them). -/
theorem for_bound_not_reported (kv vv : String) (coll val : Expr) (cond : Option Expr) (x : String)
    (hx : x ∈ iterNames kv vv) (hc : x ∉ fv coll) : x ∉ fv (.forTuple kv vv coll val cond) :=
  by cases cond <;> exact Proofs.not_mem_scoped hc (by simpa using hx)

theorem forobj_bound_not_reported (kv vv : String) (coll key val : Expr) (cond : Option Expr) (g : Bool) (x : String)
    (hx : x ∈ iterNames kv vv) (hc : x ∉ fv coll) : x ∉ fv (.forObject kv vv coll key val cond g) :=
  by cases cond <;> exact Proofs.not_mem_scoped hc (by simpa using hx)

/-- The anonymous symbol of a splat is never reported. -/
theorem splat_symbol_not_reported (anon : String) (src each : Expr) (hs : anon ∉ fv src) :
    anon ∉ fv (.splat anon src each) :=
  Proofs.not_mem_scoped hs (bne_self_eq_false anon)

/-- non-vacuity: `[for x in xs : x + y]` reports `xs` and `y` but not `x` -/
example : fv (.forTuple "" "x" (.var "xs") (.bin .add (.var "x") (.var "y")) none) = ["xs", "y"] := by decide

end HclModel
