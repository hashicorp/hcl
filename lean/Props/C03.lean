import HclModel.Json.Body
import Proofs.JBodyErr
/-!
# C03 — native and JSON syntaxes denote the same configuration

`JBodyV` is the model of a JSON body (`json/structure.go`: the schema decides what each property means;
`HclModel/Json/Body.lean`, tied to the code by the `JBODY` correspondence); `BodyL` is the syntax of all the
ways json/spec.md allows a configuration to be written (object or array-of-objects bodies, nested label
objects, label levels as arrays, arrays of block bodies, `null`, repeated property names, `//` comment
properties, any grouping of blocks of one type); `renderBody` is the JSON value written, `denoteBody` the
configuration meant; `Cfg.native` is that configuration as a native body (whose schema processing is
`HclModel.Body`, property C04).  A consumer sees a body through `Content` with the schema of each level, the
values of the arguments and the blocks of each type in order: `resolveJ` / `resolveN`.

The converse of `violation_native_json` with `noEmptyUnknown` as its only extra hypothesis (the proposition
`violation_json_nativeFull`) is false, refuted by `violation_json_native_counterexample`: an empty label level —
`"t": null`, `"t": {}`, `"t": []`, `"t": {"a": {}}` for a block type with labels — is a "Missing block label" error in JSON
(`unpackBlock`, `len(jsonAttrs) == 0`) while it denotes no block at all, so the native body has nothing to
object to.  `violation_json_native_partial` adds the hypothesis `noEmptyLabels`; `violation_iff` shows that
this hypothesis and `noEmptyUnknown` are exactly what is needed.
-/
namespace HclModel.JBody
open HclModel.Body

/-- evaluation of a literal written in the native syntax: the evaluator model in the empty scope -/
def evLit (cx : Cx) (e : Expr) : Val × Bool := ((eval cx [] e).1, !(eval cx [] e).2.isEmpty)

namespace Ex
/-- `x = …` -/
def leaf : STree := .mk [⟨"x", false⟩] []
/-- body of a `resource`: `count = …`, `lifecycle { x = … }` (a label-less nested block type) -/
def res : STree := .mk [⟨"count", false⟩] [(⟨"lifecycle", 0⟩, leaf)]
/-- top level: required `name`, `resource "<kind>" "<name>" {…}`, `locals {…}` -/
def top : STree := .mk [⟨"name", true⟩] [(⟨"resource", 2⟩, res), (⟨"locals", 0⟩, leaf)]
def cx : Cx := ⟨fun _ => none, false, false⟩

/-- ```json
    [ {"//": "note", "name": {"b": 1, "a": [true, null]}},
      {"resource": [ {"aws": {"web": {"count": 2, "lifecycle": {"x": "y"}},
                              "db":  [ {}, [ {"count": 1}, {"//": null} ] ]}},
                     {"gcp": {"vm": {}}} ]},
      {"resource": {"aws": {"cache": {}}}, "locals": null} ]
    ```
    an array-of-objects body, a comment, the first label level of `resource` written as an array, four
    blocks grouped under one `resource` property and one written separately, a block body written as an
    array of objects, `null` for "no `locals` block" -/
def lay : BodyL := .arr [
  [ .comment (.str "note"), .attr "name" (.obj [("b", .num 1), ("a", .arr [.bool true, .null])]) ],
  [ .blocks "resource" (.labelsArr [
      [("aws", .labelsObj [
          ("web", .one [.attr "count" (.num 2), .blocks "lifecycle" (.one [.attr "x" (.str "y")])]),
          ("db", .many [.obj [], .arr [[.attr "count" (.num 1)], [.comment .null]]])])],
      [("gcp", .labelsObj [("vm", .one [])])] ]) ],
  [ .blocks "resource" (.labelsObj [("aws", .labelsObj [("cache", .one [])])]), .blocks "locals" .none ] ]

/-- the same configuration, every block under its own property of one object -/
def lay' : BodyL := .obj [
  .blocks "resource" (.labelsObj [("aws", .labelsObj [("web",
      .one [.blocks "lifecycle" (.many [.obj [.attr "x" (.str "y")]]), .attr "count" (.num 2)])])]),
  .blocks "resource" (.labelsObj [("aws", .labelsObj [("db", .one [])])]),
  .blocks "resource" (.labelsObj [("aws", .labelsObj [("db", .one [.attr "count" (.num 1)])])]),
  .attr "name" (.obj [("a", .arr [.bool true, .null]), ("b", .num 1)]),
  .blocks "resource" (.labelsObj [("gcp", .labelsObj [("vm", .one [])]), ("aws", .labelsObj [("cache", .many [.obj []])])]) ]

/-- a layout that violates the schema: `name` is missing, `nme` and `module` are unknown -/
def bad : BodyL := .obj [.attr "nme" (.str "n"), .blocks "module" (.one []), .blocks "locals" (.one [])]

theorem top_wf : top.wf = true := by decide +kernel
theorem lay_adm : admBody top lay = true := by decide +kernel
theorem lay'_adm : admBody top lay' = true := by decide +kernel
theorem bad_adm : admBody top bad = true := by decide +kernel
theorem bad_errs : ((denoteBody bad).native.content top.schema).2 ≠ [] := by decide +kernel
end Ex

/-- **Main theorem.**  For every schema tree and every layout admissible for it, consuming the JSON value
    gives exactly what consuming the native body of the denoted configuration gives: the same arguments with
    the same values, and for every block type the same blocks in the same order with the same labels and,
    recursively, the same content. -/
theorem json_native_agree (cx : Cx) (st : STree) (L : BodyL) (n : Nat)
    (hst : st.wf = true) (hL : admBody st L = true) :
    resolveJ n st ⟨renderBody L, []⟩ = resolveN (evLit cx) n st (denoteBody L) :=
  Proofs.resolve_agree (evLit cx) (Proofs.literal_agree cx) n st L hst hL

/-- non-vacuity: the hypotheses hold for `Ex.top`, `Ex.lay` … -/
example : Ex.top.wf = true ∧ admBody Ex.top Ex.lay = true := ⟨Ex.top_wf, Ex.lay_adm⟩
/-- … and what both sides are there (the native side by evaluation, the JSON side by the theorem) -/
example : resolveJ 3 Ex.top ⟨renderBody Ex.lay, []⟩ =
    .mk [("name", some (.object Fl.none [("a", .tuple Fl.none [.bool Fl.none true, .null Fl.none .dyn]),
                                          ("b", .num Fl.none 1)], false))]
      [("resource",
          [(["aws", "web"], .mk [("count", some (.num Fl.none 2, false))]
              [("lifecycle", [([], .mk [("x", some (.str Fl.none "y", false))] [])])]),
           (["aws", "db"], .mk [("count", none)] [("lifecycle", [])]),
           (["aws", "db"], .mk [("count", some (.num Fl.none 1, false))] [("lifecycle", [])]),
           (["gcp", "vm"], .mk [("count", none)] [("lifecycle", [])]),
           (["aws", "cache"], .mk [("count", none)] [("lifecycle", [])])]),
       ("locals", [])] :=
  (json_native_agree Ex.cx Ex.top Ex.lay 3 Ex.top_wf Ex.lay_adm).trans (by rfl)

/-- literals: a JSON value without repeated object keys evaluates, as a JSON expression, to what the same
    literal written in the native syntax evaluates to -/
theorem literal_agree (cx : Cx) (v : JV) (h : uniqueKeys v = true) :
    evLit cx (litExpr v) = jsonValue v :=
  Proofs.literal_agree cx v h

/-- non-vacuity (keys out of order, nesting), and the hypothesis is needed: with a repeated key the JSON
    expression keeps the first definition and reports an error, the native one keeps the last -/
example : uniqueKeys (.obj [("b", .num 1), ("a", .arr [.obj [("b", .null)], .str "s"])]) = true := by decide +kernel
example : uniqueKeys (.obj [("a", .num 1), ("a", .num 2)]) = false ∧
    jsonValue (.obj [("a", .num 1), ("a", .num 2)]) = (.object Fl.none [("a", .num Fl.none 1)], true) ∧
    evLit Ex.cx (litExpr (.obj [("a", .num 1), ("a", .num 2)])) = (.object Fl.none [("a", .num Fl.none 2)], false) :=
  ⟨by decide +kernel, by rfl, by rfl⟩

/-- Grouping is immaterial: two admissible layouts that denote configurations with the same arguments and, per
    block type, the same blocks are indistinguishable (corollary of the main theorem). -/
theorem layout_independent (st : STree) (L₁ L₂ : BodyL) (n : Nat)
    (hst : st.wf = true) (h₁ : admBody st L₁ = true) (h₂ : admBody st L₂ = true)
    (h : ∀ cx, resolveN (evLit cx) n st (denoteBody L₁) = resolveN (evLit cx) n st (denoteBody L₂)) :
    resolveJ n st ⟨renderBody L₁, []⟩ = resolveJ n st ⟨renderBody L₂, []⟩ :=
  let cx : Cx := ⟨fun _ => none, false, false⟩
  (json_native_agree cx st L₁ n hst h₁).trans ((h cx).trans (json_native_agree cx st L₂ n hst h₂).symm)

/-- non-vacuity: `Ex.lay` and `Ex.lay'` are different layouts, denote different `Cfg`s (argument and block
    order differ between types) and satisfy the hypotheses -/
example : admBody Ex.top Ex.lay' = true ∧
    (∀ cx, resolveN (evLit cx) 3 Ex.top (denoteBody Ex.lay) = resolveN (evLit cx) 3 Ex.top (denoteBody Ex.lay')) :=
  ⟨Ex.lay'_adm, fun _ => by rfl⟩

/-- A schema violation in the native body is a schema violation in the JSON body (one level): if processing
    the native body of the denoted configuration reports an error, so does processing the JSON value. -/
theorem violation_native_json (st : STree) (L : BodyL) (hst : st.wf = true) (hL : admBody st L = true)
    (h : ((denoteBody L).native.content st.schema).2 ≠ []) :
    ((⟨renderBody L, []⟩ : JBodyV).content st.schema).2 ≠ [] :=
  Proofs.violation_native_json st L hst hL h

/-- non-vacuity -/
example : admBody Ex.top Ex.bad = true ∧ ((denoteBody Ex.bad).native.content Ex.top.schema).2 ≠ [] :=
  ⟨Ex.bad_adm, Ex.bad_errs⟩

/-- The converse needs one more condition: a block-type property the schema does not know is an error in JSON
    even when it holds no block (`"t": null`, `"t": []`), while the configuration it denotes has nothing to
    object to.  `noEmptyUnknown` excludes exactly that. -/
def noEmptyUnknown (st : STree) : BodyL → Bool
  | .obj props => props.all fun p => match p with
      | .blocks t u => st.schema.blocks.any (·.type == t) || !(denoteUnder t [] u).isEmpty
      | _ => true
  | .arr parts => parts.all fun ps => ps.all fun p => match p with
      | .blocks t u => st.schema.blocks.any (·.type == t) || !(denoteUnder t [] u).isEmpty
      | _ => true

/-- The converse of `violation_native_json` for layouts satisfying `noEmptyUnknown`, with no condition on label levels;
    refuted by `violation_json_native_counterexample`. -/
def violation_json_nativeFull : Prop :=
  ∀ (st : STree) (L : BodyL), st.wf = true → admBody st L = true → noEmptyUnknown st L = true →
    ((⟨renderBody L, []⟩ : JBodyV).content st.schema).2 ≠ [] →
    ((denoteBody L).native.content st.schema).2 ≠ []

mutual
/-- …and a second one: every label level (the first `k` levels under the name of a block type with `k`
    labels) has at least one property — no `null`, `{}`, `[]`, `[{}]` where a label is expected.  An empty
    label level is a "Missing block label" error in JSON and denotes no block at all. -/
def fullLabels : Nat → UnderL → Bool
  | 0, _ => true
  | k+1, .labelsObj part => !part.isEmpty && fullLabelProps k part
  | k+1, .labelsArr parts => !parts.flatten.isEmpty && fullLabelParts k parts
  | _+1, _ => false
def fullLabelParts (k : Nat) : List (List (String × UnderL)) → Bool
  | [] => true
  | p :: rest => fullLabelProps k p && fullLabelParts k rest
def fullLabelProps (k : Nat) : List (String × UnderL) → Bool
  | [] => true
  | (_, u) :: rest => fullLabels k u && fullLabelProps k rest
end

/-- no label level of a block type the schema knows is empty (at this level of the configuration) -/
def noEmptyLabels (st : STree) : BodyL → Bool
  | .obj props => props.all fun p => match p with
      | .blocks t u => match st.schema.blocks.find? (·.type == t) with
        | some bs => fullLabels bs.labelCount u
        | none => true
      | _ => true
  | .arr parts => parts.all fun ps => ps.all fun p => match p with
      | .blocks t u => match st.schema.blocks.find? (·.type == t) with
        | some bs => fullLabels bs.labelCount u
        | none => true
      | _ => true

/-! `Proofs.fullLabels` (`Proofs/JBodyErr.lean`, in which the proofs are stated) is the same function. -/
mutual
theorem fullLabels_eq : ∀ (k : Nat) (u : UnderL), fullLabels k u = Proofs.fullLabels k u
  | 0, _ => by simp [fullLabels, Proofs.fullLabels]
  | k+1, .labelsObj part => by simp [fullLabels, Proofs.fullLabels, fullLabelProps_eq k part]
  | k+1, .labelsArr parts => by simp [fullLabels, Proofs.fullLabels, fullLabelParts_eq k parts]
  | k+1, .none => by simp [fullLabels, Proofs.fullLabels]
  | k+1, .one _ => by simp [fullLabels, Proofs.fullLabels]
  | k+1, .many _ => by simp [fullLabels, Proofs.fullLabels]
theorem fullLabelParts_eq : ∀ (k : Nat) (parts : List (List (String × UnderL))),
    fullLabelParts k parts = Proofs.fullLabelParts k parts
  | _, [] => by simp [fullLabelParts, Proofs.fullLabelParts]
  | k, p :: rest => by
    simp [fullLabelParts, Proofs.fullLabelParts, fullLabelProps_eq k p, fullLabelParts_eq k rest]
theorem fullLabelProps_eq : ∀ (k : Nat) (part : List (String × UnderL)),
    fullLabelProps k part = Proofs.fullLabelProps k part
  | _, [] => by simp [fullLabelProps, Proofs.fullLabelProps]
  | k, (_, u) :: rest => by
    simp [fullLabelProps, Proofs.fullLabelProps, fullLabels_eq k u, fullLabelProps_eq k rest]
end

theorem noEmptyUnknown_iff (st : STree) (L : BodyL) :
    noEmptyUnknown st L = true ↔
      ∀ t u, PropL.blocks t u ∈ Proofs.bodyProps L →
        st.schema.blocks.any (·.type == t) = true ∨ denoteUnder t [] u ≠ [] := by
  have key := Proofs.all_blocks_iff
    (fun t u => st.schema.blocks.any (·.type == t) || !(denoteUnder t [] u).isEmpty) (Proofs.bodyProps L)
  simp only [Bool.or_eq_true, Bool.not_eq_true', List.isEmpty_eq_false_iff] at key
  cases L with
  | obj props => exact key
  | arr parts => simp only [noEmptyUnknown, ← List.all_flatten]; exact key

theorem noEmptyLabels_iff (st : STree) (L : BodyL) :
    noEmptyLabels st L = true ↔
      ∀ t u, PropL.blocks t u ∈ Proofs.bodyProps L → ∀ bs, st.schema.blocks.find? (·.type == t) = some bs →
        Proofs.fullLabels bs.labelCount u = true := by
  have key := Proofs.all_blocks_iff
    (fun t u => match st.schema.blocks.find? (·.type == t) with
      | some bs => fullLabels bs.labelCount u
      | none => true) (Proofs.bodyProps L)
  have hf : ∀ t u, (match st.schema.blocks.find? (·.type == t) with
        | some bs => fullLabels bs.labelCount u
        | none => true) = true ↔
      ∀ bs, st.schema.blocks.find? (·.type == t) = some bs → Proofs.fullLabels bs.labelCount u = true := by
    intro t u
    cases st.schema.blocks.find? (·.type == t) with
    | none => simp
    | some bs => simp [fullLabels_eq]
  simp only [hf] at key
  cases L with
  | obj props => exact key
  | arr parts => simp only [noEmptyLabels, ← List.all_flatten]; exact key

/-- `{"resource": null}` (also `{"resource": {}}`, `{"resource": {"aws": {}}}`, `{"resource": []}`) under a
    schema with a block type `resource` with two labels: "Missing block label" in JSON, the empty — and
    valid — configuration natively. -/
theorem violation_json_native_counterexample : ¬ violation_json_nativeFull := fun h =>
  have hst : (STree.mk [] [(⟨"resource", 2⟩, Ex.leaf)]).wf = true := by decide +kernel
  have hL : admBody (.mk [] [(⟨"resource", 2⟩, Ex.leaf)]) (.obj [.blocks "resource" .none]) = true := by decide +kernel
  h _ _ hst hL (by decide +kernel)
    (fun hj => absurd ((noEmptyLabels_iff _ _).2 ((Proofs.json_errs_nil_iff _ _ hst hL).1 hj).2.2) (by decide +kernel))
    (by decide +kernel)

/-- **Converse**: a schema violation in the JSON body of a layout without empty unknown block-type
    properties and without empty label levels is a schema violation in the native body. -/
theorem violation_json_native_partial (st : STree) (L : BodyL) (hst : st.wf = true) (hL : admBody st L = true)
    (hne : noEmptyUnknown st L = true) (hlb : noEmptyLabels st L = true)
    (h : ((⟨renderBody L, []⟩ : JBodyV).content st.schema).2 ≠ []) :
    ((denoteBody L).native.content st.schema).2 ≠ [] :=
  fun hn => h ((Proofs.json_errs_nil_iff st L hst hL).2
    ⟨hn, (noEmptyUnknown_iff st L).1 hne, (noEmptyLabels_iff st L).1 hlb⟩)

/-- Both directions at once, and the two extra hypotheses are exactly what is needed: processing the JSON
    value is error-free iff processing the native body is and neither degenerate form occurs. -/
theorem violation_iff (st : STree) (L : BodyL) (hst : st.wf = true) (hL : admBody st L = true) :
    ((⟨renderBody L, []⟩ : JBodyV).content st.schema).2 = [] ↔
      (((denoteBody L).native.content st.schema).2 = [] ∧ noEmptyUnknown st L = true ∧
        noEmptyLabels st L = true) := by
  rw [noEmptyUnknown_iff, noEmptyLabels_iff]; exact Proofs.json_errs_nil_iff st L hst hL

/-- non-vacuity: `Ex.bad` satisfies the hypotheses of `violation_json_native_partial` (its JSON errors are
    non-empty by `violation_native_json`), `Ex.lay` is error-free on both sides -/
example : admBody Ex.top Ex.bad = true ∧ noEmptyUnknown Ex.top Ex.bad = true ∧ noEmptyLabels Ex.top Ex.bad = true ∧
    ((⟨renderBody Ex.bad, []⟩ : JBodyV).content Ex.top.schema).2 ≠ [] :=
  ⟨Ex.bad_adm, by decide +kernel, by decide +kernel, violation_native_json _ _ Ex.top_wf Ex.bad_adm Ex.bad_errs⟩
example : noEmptyUnknown Ex.top Ex.lay = true ∧ noEmptyLabels Ex.top Ex.lay = true ∧
    ((⟨renderBody Ex.lay, []⟩ : JBodyV).content Ex.top.schema).2 = [] :=
  have hu : noEmptyUnknown Ex.top Ex.lay = true := by decide +kernel
  have hl : noEmptyLabels Ex.top Ex.lay = true := by decide +kernel
  ⟨hu, hl, (violation_iff _ _ Ex.top_wf Ex.lay_adm).2 ⟨by decide +kernel, hu, hl⟩⟩

end HclModel.JBody
