import Proofs.Json
/-!
# C13 — the JSON syntax accepts exactly JSON and maps literals faithfully

`parseExpression adv bs = some n` is the model of "json.ParseExpression reports no error and the syntax tree
is `n`" (`HclModel/Json/{Scan,Parse}.lean`, tied to `json/scanner.go` + `json/parser.go` by the `JSON`
correspondence).  `JsonText bs n` is the RFC 8259 reference grammar with the value it denotes
(`HclModel/Json/Grammar.lean`).  Helper lemmas live in `Proofs/Json*.lean`.
-/
namespace HclModel.Json

/-- Soundness, for ANY grapheme segmentation: whatever is accepted is a JSON text, and the tree is the
    denoted value (strings verbatim after unescaping, numbers as exact decimals, arrays, objects with
    all their members in order, literals). -/
theorem accept_sound (adv : List Byte → Nat) (bs : List Byte) (n : Node)
    (h : parseExpression adv bs = some n) : JsonText bs n :=
  Proofs.accept_sound adv bs n h

/-- Completeness, for ANY grapheme segmentation: `scanString` cuts a cluster before a quote, a backslash or a
    control character (`clampAdv`), so a cluster cannot swallow the end of a string and nothing is assumed of
    `textseg`. -/
theorem accept_complete (adv : List Byte → Nat) (bs : List Byte) (n : Node)
    (h : JsonText bs n) : parseExpression adv bs = some n :=
  Proofs.accept_complete adv bs n h

/-- Acceptance without error ⇔ JSON text, with the same value.
    (Partial with respect to the property only in that UTF-8 validity of raw string bytes is not enforced by
    the code — a recorded finding, see `accept_iff_full_false`.) -/
theorem accept_iff_partial (adv : List Byte → Nat) (bs : List Byte) (n : Node) :
    parseExpression adv bs = some n ↔ JsonText bs n :=
  ⟨accept_sound adv bs n, accept_complete adv bs n⟩

/-- `json.Parse` additionally requires an object or array root. -/
theorem file_accept_iff_partial (adv : List Byte → Nat) (bs : List Byte) (n : Node) :
    parseFile adv bs = some n ↔ (JsonText bs n ∧ ((∃ a, n = .obj a) ∨ (∃ a, n = .arr a))) :=
  Proofs.file_accept_iff adv bs n

/-- The full-strength statement of the property: accepted ⇔ (JSON text ∧ valid UTF-8). -/
def AcceptIffFull (adv : List Byte → Nat) : Prop :=
  ∀ bs, (parseExpression adv bs).isSome = true ↔ ((∃ n, JsonText bs n) ∧ ValidUtf8 bs)

/-- …is false of the code as it stands: `"\xff"` is accepted (witness replayed on the Go code). -/
theorem accept_iff_full_false : ¬ AcceptIffFull (fun _ => 1) := by
  intro h
  have := (h [34, 255, 34]).mp (by decide)
  exact absurd this.2 (by unfold ValidUtf8; decide)

/-- non-vacuity: a non-trivial accepted text -/
example : parseExpression (fun _ => 1) [123, 34, 97, 34, 58, 91, 49, 44, 34, 92, 110, 34, 93, 125] =
    some (.obj [([97], .arr [.num 1 0, .str [10]])]) := by rfl

end HclModel.Json
