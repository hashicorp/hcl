import Proofs.Pos
import Proofs.RangeScan
import Proofs.JsonScanPos
/-!
# C14 — tokens tile the source and every reported position is faithful (position arithmetic)

`emitAll` is the scanner's incremental position bookkeeping (`tokenAccum.emitToken`), `refRanges` the
independent recount from the start position (newlines and grapheme clusters up to the byte offset).
The segmentation of the input into tokens and gaps comes from the real scanner (`POS` correspondence);
that gaps hold only spaces/tabs and that token boundaries fall on cluster boundaries are checked there.
-/
namespace HclModel.Pos

/-- Every token's start and end position — byte, line and column — equals the recount from the start
    position, for every segmentation, every start position, every mixture of newline and multi-byte clusters. -/
theorem emit_positions (start : P) (segs : List Seg) :
    emitAll start 0 segs = refRanges start [] segs :=
  Proofs.emitAll_eq_ref_gen start segs start 0 [] rfl

/-- Tokens are emitted in source order and do not overlap: each token starts at or after the end of the
    previous one, and ends at or after its own start. -/
theorem emit_ordered (start : P) (segs : List Seg) :
    (emitAll start 0 segs).Pairwise (fun a b => a.stop.byte ≤ b.start.byte) ∧
    ∀ r ∈ emitAll start 0 segs, r.start.byte ≤ r.stop.byte :=
  have h := Proofs.emitAll_ordered_gen segs start 0
  ⟨h.1, h.2.1⟩

/-- The byte offsets tile the input: the last token ends at start + total bytes when the input ends with a
    token (the scanner always ends with the EOF token). -/
theorem emit_last_byte (start : P) (segs : List Seg) (ty : Nat) (cls : List Cl) :
    ((emitAll start 0 (segs ++ [.tok ty cls])).getLast?.map (·.stop.byte)) =
      some (start.byte + clBytes (flatten (segs ++ [.tok ty cls]))) :=
  by simpa using Proofs.emitAll_last_gen ty cls segs start 0

/-- non-vacuity: a CRLF, a multi-byte cluster and a gap -/
example : emitAll ⟨10, 3, 5⟩ 0 [.tok 73 [⟨1, false⟩, ⟨3, false⟩], .gap 2, .tok 10 [⟨2, true⟩], .tok 73 [⟨1, false⟩]] =
    [⟨73, ⟨10, 3, 5⟩, ⟨14, 3, 7⟩⟩, ⟨10, ⟨16, 3, 9⟩, ⟨18, 4, 1⟩⟩, ⟨73, ⟨18, 4, 1⟩, ⟨19, 4, 2⟩⟩] := by decide

/-! ## `hcl.RangeScanner` (pos_scanner.go)

`scanAll` is `RangeScanner.Scan` called until the buffer is exhausted, over the windows cut by any split
function; `refScan` recounts every range from the start of the buffer.  The `RSCAN` correspondence runs
both on the real scanner's windows (five split functions). -/

/-- Every range reported by the scanner — start and end, byte, line and column — equals the position
    obtained by counting newlines and grapheme clusters from the start position: for every start position,
    every split function (any windows, any token lengths) and every mixture of clusters. -/
theorem rscan_positions (start : P) (wins : List Win) :
    scanAll start wins = refScan start [] wins :=
  Proofs.scanAll_eq_ref_gen start wins []

/-- Ranges come in buffer order without overlap, and each is well-formed. -/
theorem rscan_ordered (start : P) (wins : List Win) :
    (scanAll start wins).Pairwise (fun a b => a.stop.byte ≤ b.start.byte) ∧
    ∀ r ∈ scanAll start wins, r.start.byte ≤ r.stop.byte :=
  have h := Proofs.scanAll_ordered_gen wins start
  ⟨h.1, h.2.1⟩

/-- A token that ends on a cluster boundary of its window is covered exactly: the range starts at the
    running position and ends `tokLen` bytes later. -/
theorem rscan_covers_token (pos : P) (w : Win) (h : w.aligned) :
    (scanWin pos w).1.start = pos ∧ (scanWin pos w).1.stop.byte = pos.byte + w.tokLen :=
  Proofs.scanWin_covers pos w h

/-- The next range starts at the position — byte, line *and* column — reached after the whole previous
    window, wherever the previous token ended inside it. -/
theorem rscan_contiguous (pos : P) (w : Win) (ws : List Win) :
    scanAll pos (w :: ws) = (scanWin pos w).1 :: scanAll (walk pos w.cls) ws :=
  Proofs.scanAll_contiguous pos w ws

/-- The full reading "the range covers the returned token" is false for split functions that skip leading
    bytes (`bufio.ScanWords`): the scanner takes the token to be the head of the window.  `"  foo "`:
    the token `foo` lies at offset 2, the range reported is bytes [0,3) = `"  f"` (recorded finding
    C14-rangescanner; replayed on the real scanner by the oracle). -/
theorem rscan_skipped_prefix_witness :
    let w : Win := { cls := List.replicate 6 ⟨1, false⟩, tokLen := 3, tokOfs := 2 }
    (scanWin ⟨0, 1, 1⟩ w).1.start.byte ≠ 0 + w.tokOfs ∧ (scanWin ⟨0, 1, 1⟩ w).1 = ⟨0, ⟨0, 1, 1⟩, ⟨3, 1, 4⟩⟩ := by
  decide

/-- non-vacuity: lines kept with their terminator (the end of the first range is line 2, column 1), a
    two-byte cluster, a token shorter than its window -/
example : scanAll ⟨0, 1, 1⟩ [⟨[⟨1, false⟩, ⟨2, false⟩, ⟨1, true⟩], 4, 0⟩, ⟨[⟨1, false⟩, ⟨2, true⟩], 1, 0⟩] =
    [⟨0, ⟨0, 1, 1⟩, ⟨4, 2, 1⟩⟩, ⟨0, ⟨4, 2, 1⟩, ⟨5, 2, 2⟩⟩] := by decide
example : (⟨[⟨1, false⟩, ⟨2, false⟩, ⟨1, true⟩], 4, 0⟩ : Win).aligned := by decide

end HclModel.Pos

/-! ## JSON scanner (json/scanner.go)

`scanP` is the JSON scanner with the position bookkeeping of the Go code (`HclModel/Json/ScanPos.lean`);
`scan` is the scanner model of C13 (types, bytes, byte offsets).  `adv` is the grapheme-cluster advance
(`textseg`), arbitrary in every theorem except `jscan_cols_*`.  The `JSONSCANP` correspondence compares
`scanP` with the real scanner's token ranges. -/
namespace HclModel.Json
open HclModel.Pos (P)

/-- Forgetting lines and columns gives the scanner model of C13: same token types, same bytes, byte offsets
    shifted by the start offset. -/
theorem jscan_erase (adv : List Byte → Nat) (buf : List Byte) (start : P) :
    (scanP adv buf start).map (fun t => (t.ty, t.bytes, t.start.byte)) =
      (scan adv buf).map (fun t => (t.ty, t.bytes, start.byte + t.start)) :=
  Proofs.erase_gen adv _ buf start start.byte 0 rfl

/-- Every token — the invalid token and the EOF tokens included — ends at its start byte plus the number of
    its bytes. -/
theorem jscan_bytes (adv : List Byte → Nat) (buf : List Byte) (start : P) :
    ∀ t ∈ scanP adv buf start, t.stop.byte = t.start.byte + t.bytes.length :=
  fun t ht => (Proofs.scanFromP_good adv False (fun c => c.elim) _ buf start (fun c => c.elim) t ht).2.2

/-- What the Go code does at an invalid byte, exactly: the invalid token holds that one byte and its range is
    `start.Range(1, 1)` (one byte, one column, same line); exactly one token follows it, the synthetic EOF,
    empty, at the invalid token's end.  Every EOF token is empty with `stop = start`, and the token list
    always ends with an EOF token. -/
theorem jscan_invalid_eof (adv : List Byte → Nat) (buf : List Byte) (start : P) :
    (∀ pre t rest, scanP adv buf start = pre ++ t :: rest → t.ty = .invalid →
      t.bytes.length = 1 ∧ t.stop = ⟨t.start.byte + 1, t.start.line, t.start.col + 1⟩ ∧
      rest = [⟨.eof, [], t.stop, t.stop⟩]) ∧
    (∀ t ∈ scanP adv buf start, t.ty = .eof → t.bytes = [] ∧ t.stop = t.start) ∧
    (scanP adv buf start).getLast?.map (·.ty) = some .eof :=
  have h := Proofs.scanFromP_shape adv _ buf start
  ⟨h.inv, h.eof, h.last⟩

/-- Lines are obtained by counting newline bytes: the line of every token boundary is the start line plus
    the number of bytes `\n` before it — for every input (invalid UTF-8, control bytes, unterminated strings,
    anything) and every `adv`.  (A string token never contains a raw newline: a control byte ends it, and a
    cluster is cut before a control byte.) -/
theorem jscan_lines (adv : List Byte → Nat) (buf : List Byte) (start : P) :
    ∀ t ∈ scanP adv buf start,
      t.start.line = start.line + (buf.take (t.start.byte - start.byte)).count 10 ∧
      t.stop.line = start.line + (buf.take (t.stop.byte - start.byte)).count 10 :=
  fun t ht =>
    have g := Proofs.scanFromP_good adv False (fun c => c.elim) _ buf start (fun c => c.elim) t ht
    ⟨g.1.offset.line, g.2.1.offset.line⟩

/-- Columns, general form: on input without tab and carriage return, scanned with one-byte clusters, the column
    of every token boundary is the recount `colAt` of the bytes before it (bytes since the last newline). -/
theorem jscan_cols_no_tab_cr (adv : List Byte → Nat) (buf : List Byte) (start : P)
    (hbuf : ∀ b ∈ buf, b ≠ 9 ∧ b ≠ 13) (hadv : ∀ l, adv l = 1) :
    ∀ t ∈ scanP adv buf start,
      t.start.col = colAt start.col (buf.take (t.start.byte - start.byte)) ∧
      t.stop.col = colAt start.col (buf.take (t.stop.byte - start.byte)) :=
  fun t ht =>
    have g := Proofs.scanFromP_good adv True (fun _ => hadv) _ buf start (fun _ => hbuf) t ht
    ⟨g.1.offset.col trivial, g.2.1.offset.col trivial⟩

/-- Columns on plain input: every byte printable ASCII or `\n`, one-byte clusters. -/
theorem jscan_cols_plain (adv : List Byte → Nat) (buf : List Byte) (start : P)
    (hbuf : ∀ b ∈ buf, b = 10 ∨ (32 ≤ b ∧ b ≤ 126)) (hadv : ∀ l, adv l = 1) :
    ∀ t ∈ scanP adv buf start,
      t.start.col = colAt start.col (buf.take (t.start.byte - start.byte)) ∧
      t.stop.col = colAt start.col (buf.take (t.stop.byte - start.byte)) :=
  jscan_cols_no_tab_cr adv buf start (fun b hb => by have := hbuf b hb; simp only [Byte] at *; omega) hadv

/-- the recount: no newline → start column + bytes; else 1 + bytes after the last newline -/
example : colAt 5 [97, 98, 99] = 8 ∧ colAt 5 [97, 10, 98, 10, 99, 100] = 3 ∧ colAt 5 [97, 10] = 1 := by decide

/-- A tab advances the column by 2 (the scanner's documented convention; it deviates from counting bytes
    or grapheme clusters, so the no-tab hypothesis of `jscan_cols_*` is needed). -/
theorem jscan_tab_two_columns :
    scanP (fun _ => 1) [9, 123] ⟨0, 1, 1⟩ =
      [⟨.braceO, [123], ⟨1, 1, 3⟩, ⟨2, 1, 4⟩⟩, ⟨.eof, [], ⟨2, 1, 4⟩, ⟨2, 1, 4⟩⟩] ∧
    colAt 1 [9] = 2 := by decide

/-- A carriage return advances the byte offset only: no column, no line. -/
theorem jscan_cr_zero_columns :
    scanP (fun _ => 1) [13, 123, 13, 10, 125] ⟨0, 1, 1⟩ =
      [⟨.braceO, [123], ⟨1, 1, 1⟩, ⟨2, 1, 2⟩⟩, ⟨.braceC, [125], ⟨4, 2, 1⟩, ⟨5, 2, 2⟩⟩,
       ⟨.eof, [], ⟨5, 2, 2⟩, ⟨5, 2, 2⟩⟩] ∧
    colAt 1 [13] = 2 := by decide

/-- non-vacuity: `{"a\"é": [1, tru]}\n x` with `é` = `e` + U+0301 (one cluster of three bytes at offset 5,
    one column), an escaped quote, a malformed keyword, a newline; start position (100, 7, 4) -/
example :
    let buf : List Byte := [123, 34, 97, 92, 34, 101, 204, 129, 34, 58, 32, 91, 49, 44, 32, 116, 114, 117, 93, 125, 10, 32, 120]
    let tbl : List Nat := [1, 1, 1, 1, 1, 3, 2, 1, 1, 1, 1, 1, 1, 1, 1, 1, 1, 1, 1, 1, 1, 1, 1]
    scanP (fun rest => tbl.getD (buf.length - rest.length) 1) buf ⟨100, 7, 4⟩ =
      [⟨.braceO, [123], ⟨100, 7, 4⟩, ⟨101, 7, 5⟩⟩,
       ⟨.string, [34, 97, 92, 34, 101, 204, 129, 34], ⟨101, 7, 5⟩, ⟨109, 7, 11⟩⟩,
       ⟨.colon, [58], ⟨109, 7, 11⟩, ⟨110, 7, 12⟩⟩,
       ⟨.brackO, [91], ⟨111, 7, 13⟩, ⟨112, 7, 14⟩⟩,
       ⟨.number, [49], ⟨112, 7, 14⟩, ⟨113, 7, 15⟩⟩,
       ⟨.comma, [44], ⟨113, 7, 15⟩, ⟨114, 7, 16⟩⟩,
       ⟨.keyword, [116, 114, 117], ⟨115, 7, 17⟩, ⟨118, 7, 20⟩⟩,
       ⟨.brackC, [93], ⟨118, 7, 20⟩, ⟨119, 7, 21⟩⟩,
       ⟨.braceC, [125], ⟨119, 7, 21⟩, ⟨120, 7, 22⟩⟩,
       ⟨.keyword, [120], ⟨122, 8, 2⟩, ⟨123, 8, 3⟩⟩,
       ⟨.eof, [], ⟨123, 8, 3⟩, ⟨123, 8, 3⟩⟩] := by decide

/-- non-vacuity: an invalid byte stops the scanner; a control byte ends a string -/
example : scanP (fun _ => 1) [34, 97, 10, 64, 49] ⟨0, 1, 1⟩ =
    [⟨.string, [34, 97], ⟨0, 1, 1⟩, ⟨2, 1, 3⟩⟩, ⟨.invalid, [64], ⟨3, 2, 1⟩, ⟨4, 2, 2⟩⟩,
     ⟨.eof, [], ⟨4, 2, 2⟩, ⟨4, 2, 2⟩⟩] := by decide

end HclModel.Json
