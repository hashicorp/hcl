import HclModel.Dyn.Expand
import Proofs.FreeVars
import Proofs.DynEq
import Proofs.DynVars
import Proofs.DynTwo
/-!
# C18 — dynamic blocks expand to exactly the blocks they describe

`XBody` is the model of `dynblock.Expand(body, ctx)` (lazy, schema-driven, with hidden-name state and the
`unknownBody` wrapper; `HclModel/Dyn/Expand.lean`, tied to `ext/dynblock` by the `EXPAND` correspondence).
`writeOut` is the specification: the body with one block written per element.  A consumer (a decoder) sees a
body only through `Content` with the schema of each level (`STree`), the values of the attributes it gets, and
the body marks: `resolveX` / `resolveW` collect all of that, at every depth.
-/
namespace HclModel.Dyn
open HclModel.Body

mutual
/-- what the parser and `dynblock`'s documentation guarantee about a source body: attribute names unique in
    each body, no static block is called `dynamic`, and no dynamic block gives an empty `labels` list (for a
    block type without labels the real code rejects `labels = []` as an unsupported argument: an error, not a
    different value) -/
def SBody.wf : SBody → Bool
  | .mk attrs blocks => (attrs.map (·.1)).eraseDups.length == attrs.length && wfAll blocks
def wfAll : List SBlock → Bool
  | [] => true
  | .static t _ b :: rest => t != "dynamic" && b.wf && wfAll rest
  | .dyn _ _ _ labels c :: rest => (match labels with | some [] => false | _ => true) && c.wf && wfAll rest
end

mutual
/-- schemas name each attribute and block type once, and never the type `dynamic` -/
def STree.wf : STree → Bool
  | .mk attrs blocks =>
    (attrs.map (·.name)).eraseDups.length == attrs.length &&
    (blocks.map (·.1.type)).eraseDups.length == blocks.length &&
    stWfAll blocks
def stWfAll : List (BlockSchema × STree) → Bool
  | [] => true
  | (bs, st) :: rest => bs.type != "dynamic" && st.wf && stWfAll rest
end

/-! The proofs (`Proofs/Dyn*.lean`) use their own copies `SBody.ok` / `STree.ok` of the two predicates above
    (`Proofs/DynLevel.lean`); they are the same functions. -/
mutual
theorem SBody.wf_eq_ok : ∀ b : SBody, b.wf = b.ok
  | .mk attrs blocks => by simp only [SBody.wf, SBody.ok, wfAll_eq_okAll blocks]
theorem wfAll_eq_okAll : ∀ l : List SBlock, wfAll l = okAll l
  | [] => by simp only [wfAll, okAll]
  | .static t ls b :: rest => by simp only [wfAll, okAll, SBody.wf_eq_ok b, wfAll_eq_okAll rest]
  | .dyn t fe itn labels c :: rest => by
    simp only [wfAll, okAll, SBody.wf_eq_ok c, wfAll_eq_okAll rest]
    rfl  -- the two `match labels with …` are different auxiliary functions with the same cases
end

mutual
theorem STree.wf_eq_ok : ∀ st : STree, st.wf = st.ok
  | .mk attrs blocks => by simp only [STree.wf, STree.ok, stWfAll_eq_stOkAll blocks]
theorem stWfAll_eq_stOkAll : ∀ l : List (BlockSchema × STree), stWfAll l = stOkAll l
  | [] => by simp only [stWfAll, stOkAll]
  | (bs, st) :: rest => by simp only [stWfAll, stOkAll, STree.wf_eq_ok st, stWfAll_eq_stOkAll rest]
end

/-! The input of the non-vacuity examples:

```
a = 1
s "x" { b = 2 }
dynamic "d" {
  for_each = xs                       # ["p", "q"] in `ρ0`
  labels   = [d.value]
  content {
    v = d.key
    dynamic "e" {
      for_each = [d.value]
      iterator = it
      content { w = d.value           # the OUTER iterator
                u = it.key }
    }
  }
}
```
-/

/-- the evaluator model in the Go configuration, no functions -/
def exEv : Env → Expr → Out := fun ρ e => eval ⟨fun _ => none, false, false⟩ ρ e

def exSrc : SBody :=
  .mk [("a", .lit (.num {} 1))]
    [ .static "s" ["x"] (.mk [("b", .lit (.num {} 2))] []),
      .dyn "d" (.var "xs") none (some [.getAttr (.var "d") "value"])
        (.mk [("v", .getAttr (.var "d") "key")]
          [ .dyn "e" (.tuple [.getAttr (.var "d") "value"]) (some "it") none
              (.mk [("w", .getAttr (.var "d") "value"), ("u", .getAttr (.var "it") "key")] []) ]) ]

/-- a two-level schema tree: `a`, `s "…" { b }`, `d "…" { v  e { w u } }` -/
def exSt : STree :=
  .mk [⟨"a", true⟩]
    [ (⟨"s", 1⟩, .mk [⟨"b", false⟩] []),
      (⟨"d", 1⟩, .mk [⟨"v", false⟩] [(⟨"e", 0⟩, .mk [⟨"w", false⟩, ⟨"u", false⟩] [])]) ]

def exRho : Env := [("xs", .tuple {} [.str {} "p", .str {} "q"]), ("other", .num {} 1)]

/-- **Main theorem.**  Whenever the blocks can be written out at all (every `for_each` is a known collection,
    every label a known unmarked string), a consumer applying any schema tree sees through the expanded body
    exactly what it sees through the written-out body: the same attributes with the same values (the iterator
    bound to the element's key and value, marks of the collection applied), the same blocks in the same order
    with the same labels, at every nesting depth, static and generated blocks interleaved in source order. -/
theorem expand_eq_written_out (ev : Env → Expr → Out) (ρf ρ : Env) (st : STree) (src : SBody) (w : WBody)
    (fuel n : Nat) (hst : st.wf = true) (hsrc : src.wf = true)
    (hw : writeOut ev ρf fuel [] Fl.none src = some w) :
    resolveX ev ρf ρ n st { src := src } = resolveW ev ρ n st w :=
  Proofs.expand_eq_written_out ev ρf ρ st src w fuel n (STree.wf_eq_ok st ▸ hst) (SBody.wf_eq_ok src ▸ hsrc) hw

/-- non-vacuity: the input above can be written out (nesting depth 3), the hypotheses hold, and both sides are
    the expected tree: the static block, then one `d` block per element labelled by the element, each with one
    `e` block whose attribute `w` sees the outer iterator -/
example : ∃ w, writeOut exEv exRho 3 [] Fl.none exSrc = some w ∧ exSt.wf = true ∧ exSrc.wf = true ∧
    resolveW exEv [] 3 exSt w = resolveX exEv exRho [] 3 exSt { src := exSrc } ∧
    resolveX exEv exRho [] 3 exSt { src := exSrc } =
      .mk [("a", .num {} 1, [])]
        [("s", ["x"], {}, .mk [("b", .num {} 2, [])] []),
         ("d", ["p"], {}, .mk [("v", .num {} 0, [])]
            [("e", [], {}, .mk [("w", .str {} "p", []), ("u", .num {} 0, [])] [])]),
         ("d", ["q"], {}, .mk [("v", .num {} 1, [])]
            [("e", [], {}, .mk [("w", .str {} "q", []), ("u", .num {} 0, [])] [])])] :=
  have hw : writeOut exEv exRho 3 [] Fl.none exSrc = some _ := rfl
  have hst : exSt.wf = true := by decide
  have hsrc : exSrc.wf = true := by decide
  ⟨_, hw, hst, hsrc, (expand_eq_written_out exEv exRho [] exSt exSrc _ 3 3 hst hsrc hw).symm, rfl⟩

/-- What `writeOut` returns with some fuel it returns with one more, so the main theorem's hypothesis does not
    depend on the fuel chosen once it holds (that it can hold is shown by the examples around). -/
theorem writeOut_fuel_mono (ev : Env → Expr → Out) (ρf : Env) (fuel : Nat) (its : Iters) (m : Fl) (src : SBody) (w : WBody)
    (h : writeOut ev ρf fuel its m src = some w) : writeOut ev ρf (fuel + 1) its m src = some w :=
  Proofs.writeOut_fuel_mono ev ρf fuel its m src w h

/-- non-vacuity: fuel 2 is not enough for the input above, 3 is, and 4 gives the same -/
example : writeOut exEv exRho 2 [] Fl.none exSrc = none ∧ (writeOut exEv exRho 3 [] Fl.none exSrc).isSome = true ∧
    writeOut exEv exRho 4 [] Fl.none exSrc = writeOut exEv exRho 3 [] Fl.none exSrc :=
  have hw : writeOut exEv exRho 3 [] Fl.none exSrc = some _ := rfl
  ⟨rfl, hw ▸ rfl, (writeOut_fuel_mono _ _ _ _ _ _ _ hw).trans hw.symm⟩

/-- Two steps = one step, for expanded bodies: partial processing with `s₁` and exhaustive processing of the
    remaining body with a disjoint `s₂` hand out the same attributes and, per block type, the same blocks as
    one exhaustive processing with the union (the remaining body keeps iterations and marks). -/
theorem expand_two_step (ev : Env → Expr → Out) (ρf : Env) (b : XBody) (s₁ s₂ : Schema)
    (hb : b.src.wf = true) (hh : b.hiddenAttrs = [] ∧ b.hiddenBlocks = [])
    (h₁ : s₁.nodup) (h₂ : s₂.nodup) (hd : s₁.disjoint s₂)
    (hdyn : ∀ bs ∈ s₁.blocks ++ s₂.blocks, bs.type ≠ "dynamic") :
    let p := b.partialContent ev ρf s₁
    let c₂ := (p.2.1.content ev ρf s₂).1
    let c := (b.content ev ρf (s₁.union s₂)).1
    c.attrs.map (fun a => (a.1, a.2.expr, a.2.its, a.2.marks, a.2.unknown)) =
      (p.1.attrs ++ c₂.attrs).map (fun a => (a.1, a.2.expr, a.2.its, a.2.marks, a.2.unknown)) ∧
    (∀ ty, (c.blocks.filter (·.type == ty)).map (fun x => (x.labels, x.body.its, x.body.marks, x.body.unknown)) =
      ((p.1.blocks ++ c₂.blocks).filter (·.type == ty)).map (fun x => (x.labels, x.body.its, x.body.marks, x.body.unknown))) :=
  Proofs.expand_two_step ev ρf b s₁ s₂ (SBody.wf_eq_ok b.src ▸ hb) hh h₁ h₂ hd hdyn

/-- non-vacuity: first `a` and the static `s` blocks, then the dynamic `d` blocks from the remaining body -/
example :
    let b : XBody := { src := exSrc }
    let s₁ : Schema := ⟨[⟨"a", true⟩], [⟨"s", 1⟩]⟩
    let s₂ : Schema := ⟨[], [⟨"d", 1⟩]⟩
    b.src.wf = true ∧ s₁.nodup ∧ s₂.nodup ∧ s₁.disjoint s₂ ∧ (∀ bs ∈ s₁.blocks ++ s₂.blocks, bs.type ≠ "dynamic") ∧
    (b.partialContent exEv exRho s₁).1.blocks.map (fun x => (x.type, x.labels)) = [("s", ["x"])] ∧
    ((b.partialContent exEv exRho s₁).2.1.content exEv exRho s₂).1.blocks.map (fun x => (x.type, x.labels)) =
      [("d", ["p"]), ("d", ["q"])] ∧
    ((b.partialContent exEv exRho s₁).2.1.content exEv exRho s₂).2 = [] ∧
    (b.content exEv exRho (s₁.union s₂)).1.blocks.map (fun x => (x.type, x.labels)) =
      [("s", ["x"]), ("d", ["p"]), ("d", ["q"])] := by
  refine ⟨rfl, by unfold Schema.nodup; decide, by unfold Schema.nodup; decide, by unfold Schema.disjoint; decide,
    by decide, rfl, rfl, rfl, rfl⟩

/-- Unknown `for_each`: the dynamic block stands for at most one block, and its body is an unknown body
    carrying the collection's marks. -/
theorem unknown_for_each (ev : Env → Expr → Out) (ρf : Env) (its : Iters) (lc : Nat) (type : String)
    (fe : Expr) (itn : Option String) (labels : Option (List Expr)) (content : SBody) (name : String) (m : Fl) (lexprs : List Expr)
    (h : decodeSpec ev ρf its lc type fe itn labels = .unknown name m lexprs) :
    (expandDyn ev ρf its lc type fe itn labels content).1.length ≤ 1 ∧
    ∀ blk ∈ (expandDyn ev ρf its lc type fe itn labels content).1, blk.body.unknown = some m ∧ blk.body.marks = m :=
  Proofs.unknown_for_each ev ρf its lc type fe itn labels content name m lexprs h

/-- non-vacuity: an unknown, marked `for_each` gives exactly one block, labelled through the iterator -/
example :
    decodeSpec exEv [("xs", .unk ⟨true, false⟩ .dyn)] [] 1 "d" (.var "xs") none (some [.lit (.str {} "l")]) =
      .unknown "d" ⟨true, false⟩ [.lit (.str {} "l")] ∧
    (expandDyn exEv [("xs", .unk ⟨true, false⟩ .dyn)] [] 1 "d" (.var "xs") none (some [.lit (.str {} "l")])
      (.mk [("v", .var "d")] [])).1.map (fun x => (x.type, x.labels, x.body.unknown)) =
      [("d", ["l"], some ⟨true, false⟩)] := ⟨rfl, rfl⟩

/-- Everything inside an unknown body is unknown: each attribute it hands out evaluates, in every scope, to the
    unknown value of unknown type carrying the marks and no diagnostics, and every nested block's body is again
    an unknown body with the same marks (so a decoder returns an unknown value of the implied type for the
    whole part, C08). -/
theorem unknown_part (ev : Env → Expr → Out) (ρf : Env) (b : XBody) (um : Fl) (s : Schema) (partialMode : Bool)
    (h : b.unknown = some um) :
    (∀ a ∈ (b.contentCore ev ρf s partialMode).1.attrs, ∀ ρ, a.2.value ev ρ = (Val.dynVal.withFl um, [])) ∧
    (∀ blk ∈ (b.contentCore ev ρf s partialMode).1.blocks, blk.body.unknown = some um) :=
  Proofs.unknown_part ev ρf b um s partialMode h

/-- non-vacuity: the unknown version of the input above hands out `a` and all three blocks -/
example :
    let c := (({ src := exSrc, unknown := some ⟨true, false⟩ } : XBody).contentCore exEv exRho exSt.schema false).1
    c.attrs.map (fun a => (a.1, a.2.value exEv [])) = [("a", .unk ⟨true, false⟩ .dyn, [])] ∧
    c.blocks.map (fun x => (x.type, x.labels, x.body.unknown)) =
      [("s", ["x"], some ⟨true, false⟩), ("d", ["p"], some ⟨true, false⟩), ("d", ["q"], some ⟨true, false⟩)] :=
  ⟨rfl, rfl⟩

/-- an unknown body has the shape of its template: same attribute names, same blocks -/
theorem unknown_shape (ev : Env → Expr → Out) (ρf : Env) (b : XBody) (um : Fl) (s : Schema) (partialMode : Bool) :
    let c := ({ b with unknown := none }.contentCore ev ρf s partialMode).1
    let cu := ({ b with unknown := some um }.contentCore ev ρf s partialMode).1
    cu.attrs.map (·.1) = c.attrs.map (·.1) ∧
    cu.blocks.map (fun x => (x.type, x.labels)) = c.blocks.map (fun x => (x.type, x.labels)) :=
  Proofs.unknown_shape ev ρf b um s partialMode

/-- **The variables reported for expansion are sufficient to perform it.**  If evaluation depends only on the
    free variables of an expression, two scopes that agree on the names `expandVars` reports give the same
    expansion: the same blocks with the same labels and the same unknown parts, at every depth. -/
theorem expand_vars_sufficient (ev : Env → Expr → Out)
    (hev : ∀ e ρ σ, AgreeOn (fv e) ρ σ → ev ρ e = ev σ e)
    (st : STree) (src : SBody) (ρf σf : Env) (n : Nat) (hst : st.wf = true) (hsrc : src.wf = true)
    (h : AgreeOn (expandVars n st [] src) ρf σf) :
    shapeX ev ρf n st { src := src } = shapeX ev σf n st { src := src } :=
  Proofs.expand_vars_sufficient ev hev st src ρf σf n (STree.wf_eq_ok st ▸ hst) (SBody.wf_eq_ok src ▸ hsrc) h

/-- The instance for the evaluator model: its frame property is `eval_agree` (`Proofs/FreeVars.lean`), the lemma
    that C07's `vars_complete` restates. -/
theorem expand_vars_sufficient_eval (cx : Cx)
    (st : STree) (src : SBody) (ρf σf : Env) (n : Nat) (hst : st.wf = true) (hsrc : src.wf = true)
    (h : AgreeOn (expandVars n st [] src) ρf σf) :
    shapeX (fun ρ e => eval cx ρ e) ρf n st { src := src } = shapeX (fun ρ e => eval cx ρ e) σf n st { src := src } :=
  expand_vars_sufficient (fun ρ e => eval cx ρ e) (fun e ρ σ ha => HclModel.Proofs.eval_agree cx e ρ σ ha)
    st src ρf σf n hst hsrc h

/-- non-vacuity: for the input above only `xs` is reported (`d` and `it` are iterators), so a scope that
    differs elsewhere gives the same expansion, which is the expected one -/
example : expandVars 3 exSt [] exSrc = ["xs"] ∧
    AgreeOn (expandVars 3 exSt [] exSrc) exRho [("other", .str {} "changed"), ("xs", .tuple {} [.str {} "p", .str {} "q"])] ∧
    shapeX exEv exRho 3 exSt { src := exSrc } =
      .mk [("s", ["x"], false, .mk []),
           ("d", ["p"], false, .mk [("e", [], false, .mk [])]),
           ("d", ["q"], false, .mk [("e", [], false, .mk [])])] := by
  refine ⟨rfl, ?_, rfl⟩
  intro x hx
  have : x = "xs" := by simpa using (show x ∈ ["xs"] from hx)
  subst this
  rfl

end HclModel.Dyn
